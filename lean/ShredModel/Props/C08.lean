import ShredModel.Lemmas.WorldInv
import ShredModel.Lemmas.CellWord
/-!
# C08 — World borrows: shared xor exclusive, violations panic, drops release

Statements are about `World.step` / `World.run` of `Model/World.lean` — the functions the
driver executes. `&mut World` operations are quantified over under the hypothesis Rust's borrow
checker enforces: no guard is alive (`World.Legal`).

*The clause "from many threads concurrently".* Every cell operation of `atomic_refcell` 0.1.14
(`try_borrow`, `try_borrow_mut`, a guard's `drop`) is one atomic read-modify-write (or store) on
the cell's borrow word, decided on the value that operation itself returns
(`Model/CellWord.lean` transcribes the four of them). Operations on one atomic location are
totally ordered, so whatever any number of threads do to a cell is *a sequence* of these steps;
`any_interleaving` (below) shows that every sequence answers exactly what the abstract borrow
state of `Model/World.lean` answers and leaves a word that stands for that state. The theorems
of this file about all legal histories therefore cover all interleavings. The transcription is
compared with the real cell — answer *and raw borrow word* after every step of random
sequential histories (engine `cellword`). Assumed, not proved:
single-location coherence of atomics, and that
the two overflow paths of `check_overflow` (2^63 live shared guards, 2^62 refused attempts
during one exclusive borrow) are not reached.
-/
namespace Shred
namespace C08
open World

/-- the invariant in the words of the property: each resource is exclusively borrowed by exactly
one live guard, or shared by exactly its `n > 0` live shared guards, or unborrowed with none. -/
theorem inv_iff (w : World) :
    Inv w ↔ ∀ r,
      (∃ c, w.get r = some c ∧ c.borrow = .excl ∧ w.nLive r true = 1 ∧ w.nLive r false = 0) ∨
      (∃ c n, w.get r = some c ∧ c.borrow = .shared n ∧ 0 < n ∧ w.nLive r false = n ∧ w.nLive r true = 0) ∨
      ((w.get r = none ∨ ∃ c, w.get r = some c ∧ c.borrow = .free) ∧ w.nLive r false = 0 ∧ w.nLive r true = 0) := by
  -- the three clauses end in what `BorrowOk` says at `r` for `excl` (its two halves swapped),
  -- `shared n`, and `free` / an absent resource
  constructor
  · intro hw r
    have h := hw r
    cases hc : w.get r with
    | none =>
      rw [hc] at h
      exact .inr (.inr ⟨.inl rfl, h⟩)
    | some c =>
      rw [hc, Option.map_some] at h
      cases hb : c.borrow with
      | free => rw [hb] at h; exact .inr (.inr ⟨.inr ⟨c, rfl, hb⟩, h⟩)
      | shared n => rw [hb] at h; exact .inr (.inl ⟨c, n, rfl, hb, h⟩)
      | excl => rw [hb] at h; exact .inl ⟨c, rfl, hb, h.2, h.1⟩
  · intro h r
    rcases h r with ⟨c, hc, hb, h1, h2⟩ | ⟨c, n, hc, hb, h⟩ | ⟨hc | ⟨c, hc, hb⟩, h⟩
    · rw [hc, Option.map_some, hb]; exact ⟨h2, h1⟩
    · rw [hc, Option.map_some, hb]; exact h
    · rw [hc]; exact h
    · rw [hc, Option.map_some, hb]; exact h

/-- under the invariant no two incompatible guards are alive: at most one exclusive guard per
resource, and never together with a shared one -/
theorem no_aliasing {w : World} (hw : Inv w) (r : ResId) :
    w.nLive r true ≤ 1 ∧ (0 < w.nLive r true → w.nLive r false = 0) := by
  rcases (inv_iff w).mp hw r with ⟨_, _, _, h1, h2⟩ | ⟨_, _, _, _, _, _, h2⟩ | ⟨_, _, h2⟩ <;> omega

/-- every operation — the six fetches, `system_data`, a step of either
meta-table iterator, guard clone, guard drop, and every `&mut` operation issued with no live
guard — preserves the invariant (and the freshness of handles). -/
theorem step_preserves_inv {w : World} (hw : Inv w) (hh : HandlesOk w) (op : Op)
    (hl : op.isMut = true → w.guards = []) : Inv (w.step op).1 ∧ HandlesOk (w.step op).1 :=
  step_inv hw hh op hl

/-- lifted to every history, from any good world … -/
theorem history_preserves_inv {w : World} (hw : Inv w) (hh : HandlesOk w) (ops : List Op) (hl : Legal w ops) :
    Inv (w.run ops) ∧ HandlesOk (w.run ops) := by
  induction ops generalizing w with
  | nil => exact ⟨hw, hh⟩
  | cons op ops ih => exact ih (step_inv hw hh op hl.1).1 (step_inv hw hh op hl.1).2 hl.2

/-- … in particular from the empty world: **at every instant** of every history each resource is
unborrowed, shared by `n` guards, or borrowed by exactly one exclusive guard. -/
theorem every_history (ops : List Op) (hl : Legal {} ops) : Inv (run {} ops) ∧ HandlesOk (run {} ops) :=
  history_preserves_inv inv_empty (handles_of_nil rfl) ops hl

/-- how the public fetches use the common core (type assertion first for the by-id forms) -/
theorem entry_points (w : World) (ty a : Nat) (k : ResId) :
    w.step (.fetch ty) = w.fetchCore ⟨ty, 0⟩ false .typed true ∧
    w.step (.fetchMut ty) = w.fetchCore ⟨ty, 0⟩ true .typed true ∧
    w.step (.tryFetch ty) = w.fetchCore ⟨ty, 0⟩ false .typed false ∧
    w.step (.tryFetchMut ty) = w.fetchCore ⟨ty, 0⟩ true .typed false ∧
    w.step (.tryFetchById a k) = (if a ≠ k.ty then (w, .panic .wrongType) else w.fetchCore k false .byId false) ∧
    w.step (.tryFetchMutById a k) = (if a ≠ k.ty then (w, .panic .wrongType) else w.fetchCore k true .byId false) :=
  ⟨rfl, rfl, rfl, rfl, rfl, rfl⟩

/-- for every fetch (`orPanic` = the non-`try_` forms): the answer is `None`
iff the resource is absent (and the form is a `try_` one); the "does not exist" panic iff it is
absent and the form is not; a borrow panic iff it is present and an incompatible guard is alive
(an exclusive one, or — for an exclusive request — any); a fresh guard showing the stored value
in every other case. In particular an aliasing guard is never returned. -/
theorem outcome_spec {w : World} (hw : Inv w) (k : ResId) (excl : Bool) (f : Form) (orPanic : Bool) :
    let o := (w.fetchCore k excl f orPanic).2
    (o = .none ↔ w.get k = none ∧ orPanic = false) ∧
    (o = .panic .absent ↔ w.get k = none ∧ orPanic = true) ∧
    ((∃ p, o = .panic p ∧ p ≠ .absent) ↔
        (w.get k).isSome ∧ (0 < w.nLive k true ∨ (excl = true ∧ 0 < w.nLive k false))) ∧
    ((∃ h t, o = .guard h t) ↔
        (w.get k).isSome ∧ w.nLive k true = 0 ∧ (excl = true → w.nLive k false = 0)) ∧
    (∀ h t, o = .guard h t → h = w.nextHandle ∧ (w.get k).map (·.token) = some t) := by
  intro o
  -- an incompatible guard is alive iff the borrow is not granted (`inv_granted_iff`)
  have hinc : (0 < w.nLive k true ∨ (excl = true ∧ 0 < w.nLive k false)) ↔
      ¬ (w.nLive k true = 0 ∧ (excl = true → w.nLive k false = 0)) := by
    rw [Nat.pos_iff_ne_zero, Nat.pos_iff_ne_zero, Decidable.not_and_iff_not_or_not,
      Decidable.not_imp_iff_and_not]
  rw [hinc]
  -- the three ways through a fetch; `inv_granted_iff` ties the second and third to the live guards
  rcases fetchCore_cases w k excl f orPanic with ⟨hk, he⟩ | ⟨c, hk, hb, he⟩ | ⟨c, b', hk, hb, he⟩ <;>
    rw [show o = _ from congrArg Prod.snd he, hk]
  · cases orPanic <;> simp
  · -- the answer is a borrow panic, the resource is present, the borrow is not granted (`hn`)
    have hn : ¬(w.nLive k true = 0 ∧ (excl = true → w.nLive k false = 0)) := fun h =>
      nomatch hb ▸ (inv_granted_iff hw hk excl).mpr h
    have hne := borrowPanic_ne_absent f c.borrow excl
    exact ⟨
      ⟨nofun, fun h => nomatch h.1⟩,                                   -- `none`: neither side
      ⟨fun e => absurd (Out.panic.inj e) hne, fun h => nomatch h.1⟩,  -- "does not exist": neither side
      ⟨fun _ => ⟨rfl, hn⟩, fun _ => ⟨_, rfl, hne⟩⟩,                    -- a borrow panic: both sides
      ⟨nofun, fun h => absurd h.2 hn⟩,                                 -- a guard: neither side
      nofun⟩                                                           -- what a guard shows: there is none
  · -- the answer is a guard, the resource is present, the borrow is granted (`hg`)
    have hg := (inv_granted_iff hw hk excl).mp (hb ▸ rfl)
    exact ⟨
      ⟨nofun, fun h => nomatch h.1⟩,                 -- `none`: neither side
      ⟨nofun, fun h => nomatch h.1⟩,                 -- "does not exist": neither side
      ⟨nofun, fun h => absurd hg h.2⟩,               -- a borrow panic: neither side
      ⟨fun _ => ⟨rfl, hg⟩, fun _ => ⟨_, _, rfl⟩⟩,    -- a guard: both sides
      -- what a guard shows: the fresh handle, the stored value
      fun h t e => ⟨(Out.guard.inj e).1.symm, congrArg some (Out.guard.inj e).2⟩⟩

/-- a step of a meta-table iterator skips the registered types whose resource is absent and
fetches the first present one by `borrow()` / `borrow_mut()`; `None` iff none is left -/
theorem meta_next_spec (w : World) (tys : List Nat) (idx : Nat) (excl : Bool) :
    ((w.metaNext tys idx excl).1 = w ∧ (w.metaNext tys idx excl).2.1 = .none ∧
        ∀ ty ∈ tys.drop idx, w.get ⟨ty, 0⟩ = none) ∨
    (∃ pre ty post, tys.drop idx = pre ++ ty :: post ∧ (∀ t ∈ pre, w.get ⟨t, 0⟩ = none) ∧
      (w.get ⟨ty, 0⟩).isSome ∧
      (w.metaNext tys idx excl).1 = (w.fetchCore ⟨ty, 0⟩ excl .byId false).1 ∧
      (w.metaNext tys idx excl).2.1 = (w.fetchCore ⟨ty, 0⟩ excl .byId false).2 ∧
      (w.metaNext tys idx excl).2.2 = idx + pre.length + 1) :=
  metaScan_cases w excl (tys.drop idx) idx

/-- cloning a live shared guard always succeeds and is one more shared borrow of the same cell -/
theorem clone_spec {w : World} (hw : Inv w) {h : Nat} {g : Guard} (hf : findGuard h w.guards = some g)
    (hs : g.excl = false) :
    w.step (.clone h) = w.fetchCore g.key false .byId false ∧
    ∃ t, (w.step (.clone h)).2 = .guard w.nextHandle t := by
  have he : w.step (.clone h) = w.fetchCore g.key false .byId false := by
    simp [step, cloneGuard, hf, hs]
  -- the cell of a live shared guard is shared, so one more shared borrow is granted
  obtain ⟨c, hg, hc⟩ := inv_live hw hf
  obtain ⟨n, hn⟩ := hc.of_counted.2 hs
  refine ⟨he, c.token, ?_⟩
  rw [he, fetchCore_ok w _ _ _ _ hg (b' := .shared (n + 2)) (by rw [hn]; rfl)]

/-- an operation that panics leaves every cell and every existing guard
exactly as it was; for the composite `system_data` this is *after unwinding* — the guards taken
for earlier fields have been released again. -/
theorem panic_frame {w : World} (hw : Inv w) (hh : HandlesOk w) (op : Op) (p : WPanic)
    (hne : ∀ items toks, op ≠ .exec items toks ∧ op ≠ .execFault items toks) (hp : (w.step op).2 = .panic p) :
    (w.step op).1.cells = w.cells ∧ (w.step op).1.guards = w.guards := by
  cases hm : op.isMut with
  | false =>
    -- a `&self` call that panicked has answered no guard: nothing to drop in `step_release_frame`
    have := step_release_frame hw hh op hm (by rintro h rfl; cases hp)
    rw [hp] at this
    exact ⟨this.cells, this.guards⟩
  | true =>
    cases op with
    | insert _ _ | insertById _ _ _ => exact insertById_panic_frame w _ _ _ p hp
    | remove _ | removeById _ _ => exact (removeById_panic_frame w _ _ p hp).symm ▸ ⟨rfl, rfl⟩
    | entry ty tok bv => exact entryScoped_panic_frame w ty tok bv p hp
    | getMut _ | getMutRaw _ => exact ⟨rfl, rfl⟩
    | setup items toks => cases hp
    | exec items toks => exact absurd rfl (hne items toks).1
    | insertFused a k tok =>
      have e : w.step (.insertFused a k tok) = w.insertById a k tok := insertFused_eq_of_panic hp
      exact e ▸ insertById_panic_frame w a k tok p (e ▸ hp)
    | entryFault ty tok f => exact entryFault_panic_frame w ty tok f p hp
    | execFault items toks => exact absurd rfl (hne items toks).2
    | _ => cases hm

/-- `exec` is `setup` then fetch: a panic of the fetch leaves the world as `setup` made it (the
same for `exec` with a closure that would panic: `exec_closure_panics`) -/
theorem panic_frame_exec {w : World} (hw : Inv w) (hg : w.guards = []) (items : List SdItem) (toks : List Nat)
    (p : WPanic) (hp : (w.step (.exec items toks)).2 = .panic p) :
    (w.step (.exec items toks)).1.cells = (w.setup items toks).1.cells ∧
    (w.step (.exec items toks)).1.guards = [] := by
  have h1 := setup_inv hw hg items toks
  have h2 := (sysData_moves _ items).frame h1.1 (handles_of_nil h1.2)
  rw [step] at hp ⊢
  rcases exec_cases w items toks with ⟨_, _, _, he, _⟩ | ⟨w2, p', hr, _, he, _⟩ <;> rw [he] at hp ⊢
  · cases hp
  · rw [hr] at h2
    exact ⟨h2.cells, h2.guards.trans h1.2⟩

/-- dropping the live guard `h` on `(k, kind)` removes `h` from the guard table,
leaves every other cell alone, keeps the type and value of `k`'s cell, and lowers `k`'s counter
by exactly that guard's contribution: exclusive → free; shared `n+1` → shared `n` (free for
`n = 0`). The numbers of live guards change for `(k, kind)` only, by one. -/
theorem drop_exact {w : World} (hw : Inv w) {h : Nat} {g : Guard} (hf : findGuard h w.guards = some g) :
    (w.step (.drop h)).1.guards = dropGuard h w.guards ∧
    (∀ r, r ≠ g.key → (w.step (.drop h)).1.get r = w.get r) ∧
    (∃ c, w.get g.key = some c ∧
        (w.step (.drop h)).1.get g.key = some { c with borrow := releaseBorrow c.borrow g.excl } ∧
        (g.excl = true → c.borrow = .excl ∧ releaseBorrow c.borrow g.excl = .free) ∧
        (g.excl = false → ∃ n, c.borrow = .shared (n + 1) ∧
            releaseBorrow c.borrow g.excl = if n = 0 then .free else .shared n)) ∧
    (w.step (.drop h)).1.nLive g.key g.excl + 1 = w.nLive g.key g.excl ∧
    (∀ r x, (r, x) ≠ (g.key, g.excl) → (w.step (.drop h)).1.nLive r x = w.nLive r x) := by
  obtain ⟨c, hg, hc⟩ := inv_live hw hf
  have hget := get_release hf hg
  refine ⟨release_guards hf, fun r hr => (hget r).trans (if_neg hr),
    ⟨c, hg, (hget _).trans (if_pos rfl), ?_, ?_⟩, ?_, ?_⟩
  -- the counter counted the guard (`hc`), so it was exclusive, or shared by `n + 1`
  · intro hx
    exact ⟨hc.of_counted.1 hx, by rw [hx]; rfl⟩
  · intro hx
    obtain ⟨n, hn⟩ := hc.of_counted.2 hx
    refine ⟨n, hn, ?_⟩
    rw [hn, hx]
    cases n <;> rfl
  -- the numbers of live guards
  · have := nLive_release hf g.key g.excl
    rwa [if_pos rfl] at this
  · intro r x hne
    have := nLive_release hf r x
    rwa [if_neg (fun e => hne (by rw [e])), Nat.add_zero] at this

/-- dropping a handle that is not alive does nothing -/
theorem drop_dead {w : World} {h : Nat} (hf : findGuard h w.guards = none) : (w.step (.drop h)).1 = w :=
  release_dead hf

/-! ## unwinding through guards

A closure run under `catch_unwind` takes guards of any kind in any order (`Take`: the four typed
fetches, the two by-id fetches, a system-data tuple with `Read` / `Write` / `Option` fields, steps of
its own meta-table iterators, clones of its own or of outer guards) and ends by returning, by its own
`panic!()`, or because one of its fetches was refused after others had succeeded. -/

/-- *unwinding through a guard releases exactly that borrow*: however the
closure ends, afterwards every cell has the borrow state it had before, and the guards alive outside
the closure are exactly the ones that were alive before — nothing the closure took is still
borrowed, nothing it did not take was released. -/
theorem scope_frame {w : World} (hw : Inv w) (hh : HandlesOk w) (tys : List Nat) (takes : List Take) (e : Bool) :
    (w.step (.scope tys takes e)).1.cells = w.cells ∧ (w.step (.scope tys takes e)).1.guards = w.guards :=
  Shred.scope_frame hw hh tys takes e

/-- in particular every resource is borrowed exactly as before, by exactly the same guards -/
theorem scope_restores {w : World} (hw : Inv w) (hh : HandlesOk w) (tys : List Nat) (takes : List Take) (e : Bool)
    (r : ResId) (x : Bool) :
    (w.step (.scope tys takes e)).1.get r = w.get r ∧ (w.step (.scope tys takes e)).1.nLive r x = w.nLive r x := by
  obtain ⟨h1, h2⟩ := scope_frame hw hh tys takes e
  exact ⟨by rw [get_def, h1, ← get_def], by unfold World.nLive; rw [h2]⟩

/-- unwinding releases what a normal return releases: the world after the closure does not depend
on whether it panicked at its end or returned -/
theorem unwind_eq_return (w : World) (tys : List Nat) (takes : List Take) :
    (w.step (.scope tys takes true)).1 = (w.step (.scope tys takes false)).1 := rfl

/-- the closure's answer: what its guards showed, and `refused p` iff one of its fetches panicked
with `p` (then the remaining ones were not attempted), else `panicked` / `returned` as it chose -/
theorem scope_out (w : World) (tys : List Nat) (takes : List Take) (e : Bool) :
    (w.step (.scope tys takes e)).2 =
      .scopeDone (scopeBody tys takes w 0 0 []).2.2.1
        (match (scopeBody tys takes w 0 0 []).2.2.2 with
          | some p => .refused p
          | none => if e then .panicked else .returned) := rfl

/-- every acquisition inside a closure is one of the `&self` operations of `outcome_spec` /
`meta_next_spec` / `clone_spec` (so a refusal inside a closure is a refusal by those rules) -/
theorem take_is_step (w : World) (tys : List Nat) (ri wi : Nat) (prior : List Nat) (t : Take)
    (hc : ∀ i, t = .cloneLocal i → i < prior.length) :
    t.run w tys ri wi prior = w.step (t.toOp tys ri wi prior) ∧ (t.toOp tys ri wi prior).isMut = false := by
  cases t with
  | fetch ty excl orPanic => cases excl <;> cases orPanic <;> exact ⟨rfl, rfl⟩
  | byId a k excl => cases excl <;> exact ⟨rfl, rfl⟩
  | data items | iter excl => exact ⟨rfl, rfl⟩
  | cloneLocal i =>
    have hi := hc i rfl
    simp only [Take.run, Take.toOp]
    rw [List.getElem?_eq_getElem hi]
    exact ⟨rfl, rfl⟩
  | cloneOuter h => exact ⟨rfl, rfl⟩

/-- the guard `entry()…` returns keeps `&mut World` borrowed; if the caller panics while holding
it, unwinding releases it: the world is the one after the plain `entry` call, no guard is alive -/
theorem entry_guard_unwinds {w : World} (hw : Inv w) (hg : w.guards = []) (ty t : Nat) (bv : Bool) :
    (w.step (.entryFault ty t (.guardHeld bv))).1 = (w.step (.entry ty t bv)).1 ∧
    (w.step (.entryFault ty t (.guardHeld bv))).1.guards = [] ∧
    (w.step (.entryFault ty t (.guardHeld bv))).2 = .unwound .closure :=
  ⟨entryFault_guardHeld_fst w ty t bv, entryFault_guardHeld_fst w ty t bv ▸ (entryScoped_inv hw hg ty t bv).2,
   entryFault_guardHeld_out hw hg ty t bv⟩

/-- `exec(f)` with an `f` that panics while it holds the data: the world is the one after the plain
`exec`; the answer is the refusal of the fetch if there was one, else the closure's panic -/
theorem exec_closure_panics (w : World) (items : List SdItem) (toks : List Nat) :
    (w.step (.execFault items toks)).1 = (w.step (.exec items toks)).1 ∧
    (((w.step (.execFault items toks)).2 = .unwound .closure ∧ ∃ fs, (w.step (.exec items toks)).2 = .data fs) ∨
     (∃ p, (w.step (.execFault items toks)).2 = .panic p ∧ (w.step (.exec items toks)).2 = .panic p)) :=
  execFault_spec w items toks

/-- a legal history with shared, exclusive, by-id, composite and iterator borrows -/
def sample : List Op :=
  [.insert 1 10, .insertById 2 ⟨2, 7⟩ 11, .fetch 1, .tryFetch 1, .clone 0, .tryFetchMutById 2 ⟨2, 7⟩,
   .fetchMut 1, .drop 0, .drop 1, .drop 2, .fetchMut 1, .metaNext [3, 1, 2] 0 false, .drop 4,
   .systemData [⟨1, false, false, true⟩, ⟨3, true, true, true⟩, ⟨1, true, false, true⟩], .drop 3, .remove 1]

example : Legal {} sample := by
  repeat (refine ⟨by decide +kernel, ?_⟩)
  trivial

/-- the exclusive fetch while two shared guards and a clone are alive panics (step 7 of `sample`) -/
example : ((run {} (sample.take 6)).step (.fetchMut 1)).2 = .panic .alreadyBorrowed := by decide +kernel

/-- the composite fetch of step 14 panics at its third field and has released the first -/
example : ((run {} (sample.take 13)).step
      (.systemData [⟨1, false, false, true⟩, ⟨3, true, true, true⟩, ⟨1, true, false, true⟩])).2 = .panic .alreadyBorrowed ∧
    ((run {} (sample.take 14)).guards.map (·.1)) = [3] := by decide +kernel

/-- the hypotheses of `drop_exact` / `clone_spec` are satisfiable -/
example : findGuard 1 (run {} (sample.take 5)).guards = some ⟨⟨1, 0⟩, false⟩ := by decide +kernel

/-- a closure that, while two shared guards on resource 1 live outside it, takes a `Write` on 2 by
id, a tuple `(Read<1>, Option<Write<3>>)`, a clone of its first tuple field, a step of its own
iterator — and is then refused `fetch_mut::<1>()`: five guards are unwound, the outer two stay -/
def unwound : Op :=
  .scope [3, 2, 1] [.byId 2 ⟨2, 7⟩ true, .data [⟨1, false, false, true⟩, ⟨3, true, true, true⟩], .cloneLocal 1,
    .iter false, .fetch 1 true true, .fetch 2 false false] false

example : ((run {} (sample.take 4)).step unwound).2 =
      .scopeDone [some 11, some 10, none, some 10, some 10] (.refused .alreadyBorrowed) ∧
    (scopeBody [3, 2, 1] [.byId 2 ⟨2, 7⟩ true, .data [⟨1, false, false, true⟩, ⟨3, true, true, true⟩], .cloneLocal 1,
      .iter false, .fetch 1 true true, .fetch 2 false false] (run {} (sample.take 4)) 0 0 []).2.1 = [2, 3, 4, 5] ∧
    ((run {} (sample.take 4)).step unwound).1.cells = (run {} (sample.take 4)).cells ∧
    ((run {} (sample.take 4)).step unwound).1.guards.map (·.1) = [0, 1] := by decide +kernel

/-- the same closure ending in its own panic instead (no refusal): everything is released as well -/
example : ((run {} (sample.take 4)).step (.scope [1] [.fetch 1 false true, .iter false, .iter false] true)).2 =
      .scopeDone [some 10, some 10, none] .panicked ∧
    ((run {} (sample.take 4)).step (.scope [1] [.fetch 1 false true, .iter false, .iter false] true)).1.cells =
      (run {} (sample.take 4)).cells := by decide +kernel

/-- **C08 (any number of threads, any interleaving).** Tag every atomic step on a cell's borrow word
with the thread that performs it: whatever the interleaving, granted / refused answers are those of
the abstract borrow state (free / `n` shared / exclusive) run over the same steps, and the word
left behind stands for that state. (`H` is `HIGH_BIT`; legality: a guard is dropped only while it
exists, fewer than `H - 1` shared guards are alive.) -/
theorem any_interleaving {H : Nat} (hH : 1 < H) (steps : List (Nat × CellWord.COp))
    (hl : CellWord.LegalRun H .free (steps.map (·.2))) :
    CellWord.Rel H (CellWord.runWord H 0 (steps.map (·.2))).1 (CellWord.runAbs .free (steps.map (·.2))).1 ∧
    (CellWord.runWord H 0 (steps.map (·.2))).2 = (CellWord.runAbs .free (steps.map (·.2))).2 :=
  CellWord.run_refines hH (steps.map (·.2)) (show CellWord.Rel H 0 .free from rfl) hl

/-- the abstract state is never "shared and exclusive at once" (`Borrow` has no such value); at
word level: while an exclusive guard exists the word has the high bit, so no attempt of any thread
is granted; while shared guards exist the word is not 0, so no exclusive attempt is -/
theorem no_aliasing_grant {H : Nat} (hH : 0 < H) (w : Nat) :
    (H ≤ w → (CellWord.wordStep H w .tryShared).2 = false ∧ (CellWord.wordStep H w .tryExcl).2 = false) ∧
    (0 < w → (CellWord.wordStep H w .tryExcl).2 = false) :=
  ⟨fun h => ⟨congrArg Prod.snd (CellWord.wordStep_tryShared_ge h),
      congrArg Prod.snd (CellWord.wordStep_tryExcl_pos (Nat.lt_of_lt_of_le hH h))⟩,
   fun h => congrArg Prod.snd (CellWord.wordStep_tryExcl_pos h)⟩

/-- not vacuous: two threads, reader granted, writer refused, reader drops, writer granted,
reader refused (and leaves its increment behind), writer drops: the word is 0 again -/
example : (CellWord.runWord 8 0 [.tryShared, .tryExcl, .dropShared, .tryExcl, .tryShared, .dropExcl]) =
    (0, [true, false, true, true, false, true]) := by decide +kernel

end C08
end Shred

#print axioms Shred.C08.inv_iff
#print axioms Shred.C08.no_aliasing
#print axioms Shred.C08.step_preserves_inv
#print axioms Shred.C08.history_preserves_inv
#print axioms Shred.C08.every_history
#print axioms Shred.C08.entry_points
#print axioms Shred.C08.outcome_spec
#print axioms Shred.C08.meta_next_spec
#print axioms Shred.C08.clone_spec
#print axioms Shred.C08.panic_frame
#print axioms Shred.C08.panic_frame_exec
#print axioms Shred.C08.drop_exact
#print axioms Shred.C08.drop_dead
#print axioms Shred.C08.scope_frame
#print axioms Shred.C08.scope_restores
#print axioms Shred.C08.unwind_eq_return
#print axioms Shred.C08.scope_out
#print axioms Shred.C08.take_is_step
#print axioms Shred.C08.entry_guard_unwinds
#print axioms Shred.C08.exec_closure_panics
#print axioms Shred.C08.any_interleaving
#print axioms Shred.C08.no_aliasing_grant
