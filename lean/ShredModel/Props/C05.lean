import ShredModel.Lemmas.Scenario
import ShredModel.Lemmas.Effect
import ShredModel.Lemmas.TaskN
import ShredModel.Lemmas.NestedTop
/-!
# C05 — schedule independence: parallel dispatch equals sequential dispatch

`act e σ` is the effect of event `e` on the state `σ` (world contents and every system's
own state). The hypothesis `hcomm` is what "every system's behaviour depends only on its own
state and on the resources it declared" provides: events of two systems whose declared access
does not conflict commute. Then **every** trace of the parallel plan — every interleaving —
has the same effect as the one trace `dispatch_seq` produces (`C05_seq_has_one_trace`), and
this is preserved over any number of dispatches (`C05_repeated`). The harness's own systems
(`Model/Effect.lean::runSys`, the same code as `harness/src/sys.rs::HSys::run`, an
order-sensitive update) satisfy the hypothesis (`C05_harness_commutes`), so the statement is
not vacuous and `C05_harness_schedule_independent` is what the correspondence run compares the
real parallel dispatches with.
-/
namespace Shred

namespace Scenario
variable (sc : Scenario)

/-- **C05.** -/
theorem C05_schedule_independence {σ : Type} (act : Ev SysTag → σ → σ)
    (hcomm : ∀ e1 e2, ¬ conflictsD (sc.D e1.sys) (sc.D e2.sys) → ∀ s, act e1 (act e2 s) = act e2 (act e1 s))
    (l : List (Ev SysTag)) (hl : Traces sc.plan l) (s : σ) :
    eval act l s = eval act sc.plan.seqTrace s :=
  par_eq_seq (Compat := CompatD sc.D) act hcomm hl sc.wf_plan s

/-- **C05 (what `dispatch_seq` does).** Sequential dispatch has exactly one trace, and it is the
sequential reading of the parallel plan. -/
theorem C05_seq_has_one_trace (l : List (Ev SysTag)) (hl : Traces sc.planSeq l) : l = sc.plan.seqTrace := by
  rw [planSeq, dispatchSeqTask_eq] at hl
  rw [traces_noPar hl (noPar_dispatchOf .leaf id (fun _ => trivial) _ _), plan, dispatchTask_eq]
  exact (seqTrace_dispatchOf true .leaf id _ _).symm

/-- **what `dispatch_seq` does is one of the executions of `dispatch`**: every statement proved for
all traces of the parallel plan (C01–C04, C12) therefore holds for sequential dispatch too. -/
theorem seq_trace_is_a_par_trace (l : List (Ev SysTag)) (hl : Traces sc.planSeq l) : Traces sc.plan l := by
  rw [sc.C05_seq_has_one_trace l hl]
  exact traces_seqTrace sc.plan

/-- **C05 (parallel = sequential).** Whatever interleaving the parallel dispatch takes and
the one trace of the sequential dispatch have the same effect. -/
theorem C05_par_eq_seq {σ : Type} (act : Ev SysTag → σ → σ)
    (hcomm : ∀ e1 e2, ¬ conflictsD (sc.D e1.sys) (sc.D e2.sys) → ∀ s, act e1 (act e2 s) = act e2 (act e1 s))
    (lp ls : List (Ev SysTag)) (hp : Traces sc.plan lp) (hs : Traces sc.planSeq ls) (s : σ) :
    eval act lp s = eval act ls s := by
  rw [sc.C05_seq_has_one_trace ls hs]
  exact sc.C05_schedule_independence act hcomm lp hp s

/-- **C05 (repetition).** Any number of parallel dispatches, each with its own interleaving,
have the effect of the same number of sequential dispatches. -/
theorem C05_repeated {σ : Type} (act : Ev SysTag → σ → σ)
    (hcomm : ∀ e1 e2, ¬ conflictsD (sc.D e1.sys) (sc.D e2.sys) → ∀ s, act e1 (act e2 s) = act e2 (act e1 s))
    (ls : List (List (Ev SysTag))) (hls : ∀ l, l ∈ ls → Traces sc.plan l) (s : σ) :
    eval act ls.flatten s = eval act (List.replicate ls.length sc.plan.seqTrace).flatten s :=
  eval_flatten_of_forall act (fun l hl => sc.C05_schedule_independence act hcomm l (hls l hl)) s

/-- the effect of the harness's systems: all of it happens inside the window, here at `D` -/
def harnessAct (D : Nat → Decl) : Ev SysTag → EffState → EffState
  | .D x, st => runSys x (D x) st
  | .F _, st => st

/-- **C05 (the hypothesis is satisfiable).** The harness's order-sensitive systems commute
whenever their declarations do not conflict. -/
theorem C05_harness_commutes (D : Nat → Decl) (e1 e2 : Ev SysTag)
    (h : ¬ conflictsD (D e1.sys) (D e2.sys)) (s : EffState) :
    harnessAct D e1 (harnessAct D e2 s) = harnessAct D e2 (harnessAct D e1 s) := by
  refine act_comm_of_D (fun _ _ => rfl) e1 e2 s ?_
  by_cases hxy : e1.sys = e2.sys
  · rw [hxy]
  · exact runSys_comm _ _ _ _ hxy h s

/-- **C05 for the harness's systems**: what the correspondence run compares real parallel
dispatches with. -/
theorem C05_harness_schedule_independent (l : List (Ev SysTag)) (hl : Traces sc.plan l) (st : EffState) :
    eval (harnessAct sc.D) l st = eval (harnessAct sc.D) sc.plan.seqTrace st :=
  sc.C05_schedule_independence (harnessAct sc.D) (C05_harness_commutes sc.D) l hl st

end Scenario

namespace Level
variable {D : SysTag → Decl} (L : Level D)

/-- **C05 at any nesting depth.** Every interleaving of a dispatcher with batches (their inner
dispatchers running in parallel too, any number of iterations) has the effect of the one
sequential reading, provided instances with non-conflicting declarations commute. -/
theorem C05_nested {σ : Type} (act : Ev Inst → σ → σ)
    (hcomm : ∀ e1 e2, CompatI D e1.sys e2.sys → ∀ s, act e1 (act e2 s) = act e2 (act e1 s))
    (par : Bool) (pfx : Inst) (l : List (Ev Inst)) (hl : Traces (L.task par pfx) l) (s : σ) :
    eval act l s = eval act (L.task false pfx).seqTrace s := by
  rw [← L.seqTrace_task par pfx]
  exact par_eq_seq (Compat := CompatI D) act hcomm hl (L.wf par pfx) s

/-- the harness's effect per instance: the system with the instance's tag runs once inside the
window (controllers of batches — `isSys = false` — have no effect of their own) -/
def harnessActI (D : SysTag → Decl) (isSys : SysTag → Bool) : Ev Inst → EffState → EffState
  | .D x, st => if isSys (lastTag x) then runSys (lastTag x) (D (lastTag x)) st else st
  | .F _, st => st

theorem harnessActI_commutes (isSys : SysTag → Bool) (e1 e2 : Ev Inst)
    (h : CompatI D e1.sys e2.sys) (s : EffState) :
    harnessActI D isSys e1 (harnessActI D isSys e2 s) = harnessActI D isSys e2 (harnessActI D isSys e1 s) := by
  refine act_comm_of_D (fun _ _ => rfl) e1 e2 s ?_
  simp only [harnessActI]
  by_cases hx : isSys (lastTag e1.sys) = true
  · by_cases hy : isSys (lastTag e2.sys) = true
    · simp only [hx, hy, if_true]
      by_cases hxy : lastTag e1.sys = lastTag e2.sys
      · rw [hxy]
      · exact runSys_comm _ _ _ _ hxy h s
    · simp [hx, hy]
  · simp [hx]

/-- **C05 for the harness's systems at any depth**: what `effects k` of the driver computes (the
sequential reading) is the effect of every real interleaving. -/
theorem C05_nested_harness (isSys : SysTag → Bool) (par : Bool) (pfx : Inst) (l : List (Ev Inst))
    (hl : Traces (L.task par pfx) l) (st : EffState) :
    eval (harnessActI D isSys) l st = eval (harnessActI D isSys) (L.task false pfx).seqTrace st :=
  L.C05_nested (harnessActI D isSys) (harnessActI_commutes isSys) par pfx l hl st

/-- … and over any number of dispatches -/
theorem C05_nested_repeated {σ : Type} (act : Ev Inst → σ → σ)
    (hcomm : ∀ e1 e2, CompatI D e1.sys e2.sys → ∀ s, act e1 (act e2 s) = act e2 (act e1 s))
    (par : Bool) (pfx : Inst) (ls : List (List (Ev Inst))) (hls : ∀ l, l ∈ ls → Traces (L.task par pfx) l) (s : σ) :
    eval act ls.flatten s = eval act (List.replicate ls.length (L.task false pfx).seqTrace).flatten s :=
  eval_flatten_of_forall act (fun l hl => L.C05_nested act hcomm par pfx l (hls l hl)) s

end Level

/-- the update really is order-sensitive: two writers of one resource do **not** commute -/
example : (runSys 0 ⟨[], [⟨0, 0⟩], 1⟩ (runSys 1 ⟨[], [⟨0, 0⟩], 1⟩ EffState.init)).world ⟨0, 0⟩ ≠
    (runSys 1 ⟨[], [⟨0, 0⟩], 1⟩ (runSys 0 ⟨[], [⟨0, 0⟩], 1⟩ EffState.init)).world ⟨0, 0⟩ := by decide

end Shred

#print axioms Shred.Scenario.seq_trace_is_a_par_trace
#print axioms Shred.Scenario.C05_schedule_independence
#print axioms Shred.Scenario.C05_seq_has_one_trace
#print axioms Shred.Scenario.C05_par_eq_seq
#print axioms Shred.Scenario.C05_repeated
#print axioms Shred.Scenario.C05_harness_commutes
#print axioms Shred.Scenario.C05_harness_schedule_independent
#print axioms Shred.Level.C05_nested
#print axioms Shred.Level.C05_nested_harness
#print axioms Shred.Level.C05_nested_repeated
#print axioms Shred.Level.seqTrace_task
#print axioms Shred.Level.harnessActI_commutes
