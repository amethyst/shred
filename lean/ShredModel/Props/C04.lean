import ShredModel.Lemmas.Scenario
import ShredModel.Lemmas.NestedTop
import ShredModel.Lemmas.TaskN
/-!
# C04 — exactly once

Quantifiers: every registration sequence `ops` (any number of systems, any declarations, any
dependency lists over earlier systems, barriers anywhere), every list of thread-local systems,
and **every trace** of the resulting plan, i.e. every interleaving a thread pool of any size
can produce.
-/
namespace Shred
namespace Scenario
variable (sc : Scenario)

/-- **C04 (exactly once).** Every registered system, and every thread-local system, fetches
exactly once and drops exactly once in every execution of one dispatch. -/
theorem C04_exactly_once (l : List (Ev SysTag)) (hl : Traces sc.plan l) (x : SysTag)
    (hx : x < sc.final.n ∨ x ∈ sc.tl) : l.count (Ev.F x) = 1 ∧ l.count (Ev.D x) = 1 :=
  traces_once hl sc.plan_nodup x ((sc.mem_plan_sys x).mpr hx)

/-- **C04 (k successive dispatches run each system exactly k times).** -/
theorem C04_repeated (ls : List (List (Ev SysTag))) (hls : ∀ l, l ∈ ls → Traces sc.plan l) (x : SysTag)
    (hx : x < sc.final.n ∨ x ∈ sc.tl) :
    ls.flatten.count (Ev.F x) = ls.length ∧ ls.flatten.count (Ev.D x) = ls.length :=
  ⟨count_flatten_of_forall fun l hl => (sc.C04_exactly_once l (hls l hl) x hx).1,
   count_flatten_of_forall fun l hl => (sc.C04_exactly_once l (hls l hl) x hx).2⟩

/-- **C04 (nothing else runs).** Every event of a dispatch belongs to a registered or thread-local system. -/
theorem C04_only_registered (l : List (Ev SysTag)) (hl : Traces sc.plan l) (e : Ev SysTag) (he : e ∈ l) :
    e.sys < sc.final.n ∨ e.sys ∈ sc.tl :=
  (sc.mem_plan_sys e.sys).mp (traces_ev_sys hl e he)

/-- **C04 (`dispatch_par` / `dispatch_seq` run exactly the staged systems).** -/
theorem C04_staged_only (l : List (Ev SysTag)) (hl : Traces (stagesTask sc.final.b.stages) l) (x : SysTag) :
    (x < sc.final.n → l.count (Ev.F x) = 1 ∧ l.count (Ev.D x) = 1) ∧
    (¬ x < sc.final.n → l.count (Ev.F x) = 0 ∧ l.count (Ev.D x) = 0) := by
  constructor
  · intro hx
    exact traces_once hl sc.stagesTask_nodup x ((sc.mem_stagesTask_sys x).mpr hx)
  · intro hx
    have hns : x ∉ (stagesTask sc.final.b.stages).sys := fun h => hx ((sc.mem_stagesTask_sys x).mp h)
    exact ⟨List.count_eq_zero.mpr (not_mem_of_not_sys hl hns), List.count_eq_zero.mpr (not_mem_of_not_sys hl hns)⟩

/-- **C04 (`dispatch_thread_local` runs exactly the thread-local systems, in order).** -/
theorem C04_thread_local_only (l : List (Ev SysTag))
    (hl : Traces (Task.seqN (sc.tl.map Task.leaf)) l) : l = sc.tl.flatMap fun t => [Ev.F t, Ev.D t] := by
  rw [traces_noPar hl (noPar_seqN_map fun _ _ => trivial), seqTrace_seqN, List.flatMap_map]
  rfl

end Scenario

/-- **C04 with batches, at any nesting depth**: every instance — a system inside a batch once
per inner dispatch — fetches and drops exactly once. -/
theorem C04_exactly_once_nested {D : SysTag → Decl} (L : Level D) (par : Bool) (pfx : Inst) (l : List (Ev Inst))
    (hl : Traces (L.task par pfx) l) (x : Inst) (hx : x ∈ (L.task par pfx).sys) :
    l.count (Ev.F x) = 1 ∧ l.count (Ev.D x) = 1 :=
  L.once hl hx

/-- a controller that dispatches `n` times contributes `n` instances of every inner system -/
theorem C04_batch_instances (inner : Inst → Task Inst) (inst : Inst) (n : Nat) :
    (iterBody inner inst n 0).sys = (List.range' 0 n).flatMap fun j => (inner (inst ++ [j])).sys :=
  sys_iterBody inner inst n 0

end Shred

#print axioms Shred.Scenario.C04_exactly_once
#print axioms Shred.C04_exactly_once_nested
#print axioms Shred.C04_batch_instances
#print axioms Shred.Scenario.C04_repeated
#print axioms Shred.Scenario.C04_only_registered
#print axioms Shred.Scenario.C04_staged_only
#print axioms Shred.Scenario.C04_thread_local_only
