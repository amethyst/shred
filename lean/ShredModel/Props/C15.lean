import ShredModel.Lemmas.AsyncInv
import ShredModel.Lemmas.AsyncAccept
import ShredModel.Lemmas.Scenario
/-!
# C15 — asynchronous dispatcher: completion is observable and never overtaken

Model: `Model/Async.lean` (mirror of `src/dispatch/async_dispatcher.rs`). `Run P c l` is the
set of reachable (control state, log) pairs of the transition system in which the caller's
steps (`call op`, the blocking `acquire` = `Data::inner()`, `poll` = `inner_noblock()`,
`spawn`, `ret`, thread-local events inside `wait`) interleave arbitrarily with the steps of the
background job (`jobEv`: one F/D event of the stages task, any order the task allows; `send`).

Quantifiers of every theorem: every plan `P` (any stages task — in particular the task of any
layout the builder produces —, any list of thread-local systems), every sequence of
`dispatch / running / wait / wait_without_tl / world / res / world_mut / mut_res / setup` calls
— every public method of `AsyncDispatcher`, in every order, each one issued at every possible
moment of the job: not yet started, a system inside `run`, between two stages, finished but
not yet sent, sent long ago and never looked at (`quiet` marks that the environment has seen
the systems' own completion signal without calling the dispatcher) — and **every
interleaving** with the job (`Run` is closed under all enabled steps, so a system may stay
inside `run` across arbitrarily many caller steps). `l = l1 ++ e :: l2` reads "at the moment
event `e` is logged, the log so far is `l1`".

Panics are part of the runs: a system of the job may panic while it is inside its window
(`sysP`; the job then never sends, its sender is dropped, and every later call of any of the
nine methods unwinds with "Sender dropped": `unwound op`), a thread-local system may panic
inside `wait` (`tlP`, then `unwound wait`; nothing but the caller's position changes). `setup`
calls the setup hook of every system (`hook`), after `inner()`.

**Calling context.** Nothing below depends on which thread drives the dispatcher: `Th.caller`
is whichever thread calls the methods — an ordinary thread, a worker of the dispatcher's own pool
(the dispatcher is driven inside `pool.install`), or a worker of another pool — and the model has
no further parameter for it (see "The calling context" in `Model/Async.lean`), so every theorem
holds in each of these contexts as it stands. **Long plans.** `P` is arbitrary, so plans of any
number of stages are covered; `chain_each_stage_once` spells the exactly-once clause out for
plans of `n` stages with one system each (any `n`): the events of a completed dispatch are
`F x₁ D x₁ … F xₙ D xₙ`, each stage once and in order.

The driver executes `feed` / `acceptsLog` of the same file; `accepted_is_run` transfers every
theorem below to every merged log the driver accepts.
-/
namespace Shred
namespace Async

variable {P : APlan} {c : Ctl} {l l1 l2 : List AEv}

/-- **C15 (accessors).** When `wait`, `wait_without_tl`, `world`, `world_mut` or `setup`
returns, every dispatch issued so far has run to completion (its events are a complete trace
of the stages task: every system has its F and its D) and nothing else has run. -/
theorem accessor_quiescent {op : AOp} {v : Bool} (h : Run P c l) (hl : l = l1 ++ .ret op v :: l2)
    (h1 : op ≠ .running) (h2 : op ≠ .dispatch) : Quiescent P l1 (dispatches l1) :=
  quiescent_at h hl (AEv.settled_ret.mpr ⟨h2, .inl h1⟩)

/-- … in particular no system is inside its F…D window at that moment. -/
theorem accessor_none_open {op : AOp} {v : Bool} (h : Run P c l) (hl : l = l1 ++ .ret op v :: l2)
    (h1 : op ≠ .running) (h2 : op ≠ .dispatch) (d x : Nat) : ¬ OpenAt l1 d x :=
  quiescent_none_open (accessor_quiescent h hl h1 h2) d x

/-- **C15 (the next dispatch).** When a `dispatch` call returns, every *earlier* dispatch has
run to completion; only the job it has just spawned may already have produced events. -/
theorem dispatch_quiescent {v : Bool} (h : Run P c l) (hl : l = l1 ++ .ret .dispatch v :: l2) :
    (∀ d, d < dispatches l1 → Traces P.job (projD d l1)) ∧ (∀ d, dispatches l1 < d → projD d l1 = []) := by
  obtain ⟨c1, hi, hn⟩ := ret_dispatch_at h hl
  exact ⟨fun d hlt => hi.earlier d (hn ▸ Nat.succ_lt_succ hlt), fun d hlt => hi.beyond d (hn ▸ hlt)⟩

/-- **C15 (running, 1).** If some system is inside its F…D window when `running()` returns,
it returns `true`. -/
theorem running_true_while_open {v : Bool} (h : Run P c l) (hl : l = l1 ++ .ret .running v :: l2)
    (d x : Nat) (ho : OpenAt l1 d x) : v = true := by
  cases v with
  | true => rfl
  | false =>
    have hq := quiescent_at h hl (AEv.settled_ret.mpr ⟨nofun, .inr rfl⟩)
    exact absurd ho (quiescent_none_open hq d x)

/-- **C15 (running, 2).** `running()` returns `false` only once every dispatch issued so far
has run to completion. -/
theorem running_false_only_done (h : Run P c l) (hl : l = l1 ++ .ret .running false :: l2) :
    Quiescent P l1 (dispatches l1) :=
  quiescent_at h hl (AEv.settled_ret.mpr ⟨nofun, .inr rfl⟩)

/-- … and the dispatcher then holds the world and the stages again (`Data::Inner`), no job
exists: state form of the same fact, at the moment `inner_noblock()` has answered. -/
theorem running_false_state (h : Run P c l) (hc : c.caller = .polled false) :
    c.data = .inner ∧ dataOk .inner c.job ∧ Quiescent P l c.nDisp := by
  have hi := run_inv h
  have hd : c.data = .inner := by have := hi.caller_data; rwa [hc] at this
  have ⟨hdj, hq, _⟩ := hi.inner hd
  exact ⟨hd, hdj, hi.quiescent hq⟩

/-- **C15 (no overtaking).** When any event of a later dispatch occurs — in particular its
first F —, every earlier dispatch has run to completion. -/
theorem no_overtake {th : Th} {d d' : Nat} {e : Ev Nat} (h : Run P c l)
    (hl : l = l1 ++ .sys th d' e :: l2) (hd : d < d') : Traces P.job (projD d l1) := by
  obtain ⟨_, c1, hi, hn⟩ := sys_at h hl
  exact hi.earlier d (hn ▸ Nat.succ_lt_succ hd)

/-- the last D of dispatch `d` precedes the first F of dispatch `d + 1` -/
theorem no_overtake_D {th : Th} {d : Nat} {e : Ev Nat} (h : Run P c l)
    (hl : l = l1 ++ .sys th (d + 1) e :: l2) (x : Nat) (hx : x ∈ P.job.sys) : Ev.D x ∈ projD d l1 :=
  (traces_complete (no_overtake h hl (Nat.lt_succ_self d)) x hx).2

/-- **C15 (thread-local systems).** A thread-local system's event occurs only on the calling
thread, between the call of `wait` and its return (the most recent call/return event is
`call wait`), and only when every dispatch issued so far has run to completion. -/
theorem tl_only_in_wait {th : Th} {e : Ev Nat} (h : Run P c l) (hl : l = l1 ++ .tl th e :: l2) :
    th = .caller ∧
    (∃ l0 l0', l1 = l0 ++ .call .wait :: l0' ∧ ∀ x, x ∈ l0' → x.isCallRet = false) ∧
    Quiescent P l1 (dispatches l1) := by
  have ⟨_, _, _, hi, _, hs⟩ := run_at h hl
  cases hs with
  | tlEv _ => exact ⟨rfl, pending_some hi.pend, quiescent_at h hl (AEv.settled_tl _ _)⟩

/-- ordinary systems never run on the calling thread -/
theorem sys_on_worker {th : Th} {d : Nat} {e : Ev Nat} (h : Run P c l) (hl : l = l1 ++ .sys th d e :: l2) :
    th = .worker :=
  (sys_at h hl).1

/-- `wait` runs every thread-local system exactly once, in registration order: the
thread-local events between `call wait` and `ret wait` are `F t₁, D t₁, F t₂, D t₂, …`. -/
theorem wait_runs_tl {v : Bool} (h : Run P c l) (hl : l = l1 ++ .ret .wait v :: l2) :
    tlSince l1 [] = P.tl.flatMap fun t => [Ev.F t, Ev.D t] := by
  obtain ⟨c1, _, ho, _, hw, _⟩ := ret_at h hl
  obtain ⟨r, hc, hn⟩ := hw rfl
  rw [hc] at ho
  exact traces_tlTask (traces_of_derivs ho hn)

/-- **C15 (exactly once).** At every moment at which an accessor (anything but `running`)
returns, each completed dispatch has contributed exactly one F and one D per ordinary
system. (`hnd`: a system instance occurs once in the stages task — true of every layout the builder
produces: `Scenario.stagesTask_nodup`, used in `scenario_each_once` below.) -/
theorem each_once {op : AOp} {v : Bool} (h : Run P c l) (hl : l = l1 ++ .ret op v :: l2)
    (h1 : op ≠ .running) (hnd : P.job.sys.Nodup) (d : Nat) (hd : d < dispatches l1) (x : Nat) (hx : x ∈ P.job.sys) :
    (projD d l1).count (Ev.F x) = 1 ∧ (projD d l1).count (Ev.D x) = 1 :=
  traces_once (traces_at_ret h hl h1 d hd) hnd x hx

/-- … and at every moment whatsoever no dispatch has produced any event twice. -/
theorem each_at_most_once (h : Run P c l) (hnd : P.job.sys.Nodup) (d : Nat) (e : Ev Nat) :
    (projD d l).count e ≤ 1 :=
  (run_inv h).at_most_once hnd d e

/-- **C15 (a dispatch that finishes on its own).** When the environment sees the systems' own
completion signal between two operations (`quiet`: no dispatcher method is involved), every
dispatch issued so far has run to completion and nothing else has run … -/
theorem quiet_quiescent (h : Run P c l) (hl : l = l1 ++ .quiet :: l2) : Quiescent P l1 (dispatches l1) :=
  quiescent_at h hl AEv.settled_quiet

/-- … and looking does not touch the dispatcher: the control state (`Data`, the mailbox, the
dispatch count) after the observation is the one before it. Whatever is called next —
blocking or not, `world_mut` / `mut_res` / `setup` as well as `wait` / `world` / `running` —
therefore finds the finished job's message exactly as if nobody had looked, and all of the
above holds of every continuation: how (and whether) an earlier dispatch was observed never
weakens what a later return guarantees. -/
theorem quiet_stutters {lb : Lbl} {c' : Ctl} (hs : step P c lb = some (c', some .quiet)) : c' = c := by
  cases Step.of_step hs with
  | observe _ => rfl

/-- **C15 (no lost wake-up).** A blocking operation (`Data::inner()`) of a reachable state is
disabled only while the job has not sent (`Data::Rx`, job still `running`); and as soon as the
job's residual is nullable — every system has finished — `send` and then the operation's
`inner()` are enabled. So a call that stays blocked although every system has finished and the
pool is idle is not a behaviour of the model. (Third case: a system of the job has panicked;
then the call stays blocked only until every system that had started has come to its end —
`die`, the sender is dropped — and then unwinds.) -/
theorem blocked_only_while_running {op : AOp} (h : Run P c l) (hc : c.caller = .called op)
    (h1 : op ≠ .running) :
    (∃ c', step P c .acquire = some (c', none)) ∨
    (∃ r, c.job = .running r ∧ c.data = .rx ∧
      (r.nullable = true → ∃ c1 c2, step P c .send = some (c1, none) ∧ step P c1 .acquire = some (c2, none))) ∨
    (∃ r ps g, c.job = .failed r ps g ∧ c.data = .rx ∧
      (g = true → ∃ c', step P c .raise = some (c', some (.unwound op))) ∧
      (g = false → (opens r).all ps.contains = true →
        ∃ c1 c2, step P c .die = some (c1, none) ∧ step P c1 .raise = some (c2, some (.unwound op)))) := by
  have hdj := (run_inv h).data_job
  obtain ⟨data, job, caller, n⟩ := c
  subst hc
  have hacq : ∀ j, available data j = true →
      step P ⟨data, j, .called op, n⟩ .acquire = some (⟨.inner, .idle, afterAcquire P op, n⟩, none) :=
    fun j hav => by dsimp only [step]; rw [if_neg h1, if_pos hav]
  cases data with
  | inner => exact .inl ⟨_, hacq _ rfl⟩
  | rx =>
    cases job with
    | idle => exact hdj.elim
    | sent => exact .inl ⟨_, hacq _ rfl⟩
    | running r =>
      exact .inr (.inl ⟨r, rfl, rfl, fun hn =>
        ⟨⟨.rx, .sent, .called op, n⟩, _, by dsimp only [step]; rw [if_pos hn], hacq .sent rfl⟩⟩)
    | failed r ps g =>
      refine .inr (.inr ⟨r, ps, g, rfl, rfl, fun hg => ?_, fun hg ho => ?_⟩)
      · subst hg
        exact ⟨_, rfl⟩
      · subst hg
        exact ⟨⟨.rx, .failed r ps true, .called op, n⟩, _, by dsimp only [step]; rw [if_pos ho], rfl⟩

/-- **After a panic inside the job nothing is ever reported complete.** Once a system of
dispatch `d` has panicked, no call returns any more — neither `wait`, `wait_without_tl`, `world`,
`res`, `world_mut`, `mut_res`, `setup` nor a later `dispatch`, and `running()` does not answer
`false` — with two exceptions that claim nothing: `running()` may still answer `true`, and the
`dispatch` call that spawned that very job may still be on its way out. -/
theorem job_panic_no_return {op : AOp} {v : Bool} {th : Th} {d x : Nat} (h : Run P c l)
    (hl : l = l1 ++ .ret op v :: l2) (hp : AEv.sysP th d x ∈ l1) :
    (op = .running ∧ v = true) ∨ (op = .dispatch ∧ d = dispatches l1) := by
  by_cases h2 : op = .dispatch
  · subst h2
    obtain ⟨c1, hi, hn⟩ := ret_dispatch_at h hl
    exact .inr ⟨rfl, Nat.succ.inj ((hi.fail_disp _ _ _ hp).trans hn)⟩
  · exact .inl ((AEv.not_settled_ret.mp (job_panic_not_settled h hl hp)).resolve_left h2)

/-- … **no thread-local system starts** (or goes on) in a `wait` for a dispatch in which a
system panicked, nor in any later `wait` … -/
theorem job_panic_no_tl {th th' : Th} {e : Ev Nat} {d x : Nat} (h : Run P c l)
    (hl : l = l1 ++ .tl th e :: l2) : AEv.sysP th' d x ∉ l1 :=
  fun hp => job_panic_not_settled h hl hp (AEv.settled_tl th e)

/-- … no setup hook is called … -/
theorem job_panic_no_hook {th th' : Th} {y d x : Nat} (h : Run P c l)
    (hl : l = l1 ++ .hook th y :: l2) : AEv.sysP th' d x ∉ l1 :=
  fun hp => job_panic_not_settled h hl hp (AEv.settled_hook th y)

/-- … the systems' own completion signal is never seen … -/
theorem job_panic_no_quiet {th' : Th} {d x : Nat} (h : Run P c l)
    (hl : l = l1 ++ .quiet :: l2) : AEv.sysP th' d x ∉ l1 :=
  fun hp => job_panic_not_settled h hl hp AEv.settled_quiet

/-- … and no system of a later dispatch ever runs. -/
theorem job_panic_no_next_dispatch {th th' : Th} {d d' x : Nat} {e : Ev Nat} (h : Run P c l)
    (hl : l = l1 ++ .sys th d' e :: l2) (hp : AEv.sysP th' d x ∈ l1) : d' = d := by
  obtain ⟨_, c1, hi, hn⟩ := sys_at h hl
  exact Nat.succ.inj (hn.trans (hi.fail_disp _ _ _ hp).symm)

/-- a system panics only inside its own window, on a pool thread -/
theorem job_panic_inside {th : Th} {d x : Nat} (h : Run P c l) (hl : l = l1 ++ .sysP th d x :: l2) :
    th = .worker ∧ ∃ r, derivs P.job.toR (projD d l1) = some r ∧ x ∈ opens r := by
  have ⟨_, _, _, hi, _, hs⟩ := run_at h hl
  cases hs with
  | jobPanic hx | jobPanicFailed hx _ => exact ⟨rfl, _, hi.current.2, List.mem_of_elem_eq_true hx⟩

/-- **Every later call unwinds.** In a reachable state in which the failed job's sender is gone,
a call of any of the nine methods can neither get through `inner()` nor through
`inner_noblock()`; the one step it can take is the "Sender dropped" panic. -/
theorem dead_every_call_unwinds {op : AOp} {r : RTask Nat} {ps : List Nat} (h : Run P c l)
    (hc : c.caller = .called op) (hj : c.job = .failed r ps true) :
    step P c .acquire = none ∧ step P c .poll = none ∧
    step P c .raise = some ({ c with caller := .ready }, some (.unwound op)) := by
  have hdj := (run_inv h).data_job
  obtain ⟨data, job, caller, n⟩ := c
  subst hc hj
  obtain rfl := hdj.rx_of_busy Job.noConfusion
  -- `available .rx (.failed ..)` is `false`; `poll` asks for `called running` and then finds the sender gone
  exact ⟨by dsimp only [step]; split <;> rfl, by cases op <;> rfl, rfl⟩

/-- **Why a call unwinds.** Either a system of a job has panicked (then every later call does),
or — the dispatcher being otherwise untouched — it is `wait`, every dispatch issued so far has
run to completion, and a thread-local system panicked inside its window in this very `wait`:
the thread-local events since `call wait` are a prefix `F t₁ D t₁ … F tᵢ` of the thread-local
task that leaves `tᵢ` open, so the systems registered after `tᵢ` did not start. -/
theorem unwound_cases {op : AOp} (h : Run P c l) (hl : l = l1 ++ .unwound op :: l2) :
    (∃ th d x, AEv.sysP th d x ∈ l1) ∨
    (op = .wait ∧ Quiescent P l1 (dispatches l1) ∧
      ∃ r x, derivs P.tlTask.toR (tlSince l1 []) = some r ∧ x ∈ opens r) := by
  have ⟨_, _, _, hi, ho, hs⟩ := run_at h hl
  cases hs with
  | raiseDead => exact .inl (any_isSysP.mp hi.fail_iff)
  | raiseTl =>
    have ⟨_, hq, hn⟩ := hi.inner hi.caller_data
    exact .inr ⟨rfl, hn ▸ hi.quiescent hq, ho⟩

/-- **A thread-local panic leaves the dispatcher intact.** The panic happens on the calling
thread inside `wait`, after every dispatch has run to completion; the step changes nothing but
the caller's position (`Data` stays `Inner`, no job, the same thread-local list `P.tl` — it is
part of the plan, not of the state), and so does the unwinding of `wait` that follows. Every
later `wait` therefore runs *all* thread-local systems again, in registration order:
`wait_runs_tl` holds of every `ret wait` of every run, those after a panic included. -/
theorem tl_panic_keeps_dispatcher {th : Th} {x : Nat} (h : Run P c l) (hl : l = l1 ++ .tlP th x :: l2) :
    th = .caller ∧ Quiescent P l1 (dispatches l1) ∧
    ∃ c1 lb, Run P c1 l1 ∧ step P c1 lb = some ({ c1 with caller := .tlFailed }, some (.tlP th x)) ∧
      c1.data = .inner ∧ dataOk .inner c1.job := by
  obtain ⟨c1, lb, c1', hr, hs⟩ := run_split h hl
  have hi := run_inv hr
  cases Step.of_step hs with
  | tlPanic _ =>
    have hd := hi.caller_data
    exact ⟨rfl, quiescent_at h hl (AEv.settled_tlP _ _), _, _, hr, hs, hd, (hi.inner hd).1⟩

/-- … state form: while `wait` unwinds, and after it has, the dispatcher holds the world and the
stages (`Data::Inner`) and no job exists. -/
theorem tl_panic_state (h : Run P c l) (hc : c.caller = .tlFailed) : c.data = .inner ∧ dataOk .inner c.job := by
  have hi := run_inv h
  have hd : c.data = .inner := by have := hi.caller_data; rwa [hc] at this
  exact ⟨hd, (hi.inner hd).1⟩

/-- **`setup` reaches every system, in every job state.** When `setup` returns — whether it was
called on an idle dispatcher, while a system of the running job was inside `run`, while the job
had not started, or after the job had finished unobserved: the theorem is about every run — the
setup hooks called since `call setup` are those of every system of the stages, in stage / group
order, followed by those of the thread-local systems, each exactly once; and (it is an accessor:
`accessor_quiescent`) every dispatch issued so far had run to completion before the first hook. -/
theorem setup_reaches {v : Bool} (h : Run P c l) (hl : l = l1 ++ .ret .setup v :: l2) :
    hookSince l1 [] = P.job.sys ++ P.tl ∧ Quiescent P l1 (dispatches l1) := by
  obtain ⟨c1, _, ho, _, _, hc⟩ := ret_at h hl
  rw [hc rfl] at ho
  exact ⟨(List.append_nil _).symm.trans ho, accessor_quiescent h hl nofun nofun⟩

/-- a setup hook is called only on the calling thread, inside `setup`, and only when every
dispatch issued so far has run to completion (`setup` joins the running dispatch first) -/
theorem hook_only_in_setup {th : Th} {x : Nat} (h : Run P c l) (hl : l = l1 ++ .hook th x :: l2) :
    th = .caller ∧
    (∃ l0 l0', l1 = l0 ++ .call .setup :: l0' ∧ ∀ y, y ∈ l0' → y.isCallRet = false) ∧
    Quiescent P l1 (dispatches l1) := by
  have ⟨_, _, _, hi, _, hs⟩ := run_at h hl
  cases hs with
  | hookEv => exact ⟨rfl, pending_some hi.pend, quiescent_at h hl (AEv.settled_hook _ _)⟩

/-- the dispatcher `build_async` produces for a registration sequence (`Lemmas/Scenario.lean`:
any list of registrations whose dependencies name earlier ones, any thread-local list) -/
def ofScenario (sc : Scenario) : APlan := ⟨stagesTask sc.final.b.stages, sc.tl⟩

/-- **C15 (exactly once) for every registration sequence**: the `Nodup` hypothesis of
`each_once` holds of every layout the builder produces, and every registered system is in it. -/
theorem scenario_each_once (sc : Scenario) {op : AOp} {v : Bool} (h : Run (ofScenario sc) c l)
    (hl : l = l1 ++ .ret op v :: l2) (h1 : op ≠ .running) (d : Nat) (hd : d < dispatches l1)
    (x : SysTag) (hx : x < sc.final.n) :
    (projD d l1).count (Ev.F x) = 1 ∧ (projD d l1).count (Ev.D x) = 1 :=
  each_once h hl h1 sc.stagesTask_nodup d hd x ((sc.mem_stagesTask_sys x).mpr hx)

/-- **Transfer to the driver.** A merged log accepted by the executable acceptor is a run;
all of the above therefore holds of it. -/
theorem accepted_is_run (h : acceptsLog P l = true) : ∃ c, Run P c l :=
  (acceptsLog_sound h).imp fun _ h => h.1

/-- the dispatcher `build_async` produces for `xs.length` systems that end up in `xs.length` stages
of one group of one system each — a dependency chain, systems that all write one resource, systems
separated by barriers, or any mixture of these: `stages = [[[x₁]], [[x₂]], …]` -/
def chainPlan (xs tl : List Nat) : APlan := ⟨stagesTask (xs.map fun x => [[x]]), tl⟩

/-- **C15 (exactly once, plans of any length).** For every number of stages: at every moment at
which `dispatch` or an accessor (anything but `running`) returns, the events of every completed
dispatch are exactly `F x₁ D x₁ F x₂ D x₂ … F xₙ D xₙ` — every stage has run once, in order, none
a second time (whatever position it has in the plan), in every calling context and whatever
happened in between. -/
theorem chain_each_stage_once {xs tl : List Nat} {c : Ctl} {l l1 l2 : List AEv} {op : AOp} {v : Bool}
    (h : Run (chainPlan xs tl) c l) (hl : l = l1 ++ .ret op v :: l2) (h1 : op ≠ .running)
    (d : Nat) (hd : d < dispatches l1) : projD d l1 = xs.flatMap fun x => [Ev.F x, Ev.D x] :=
  chain_traces xs _ (traces_at_ret h hl h1 d hd)

/-- stage 1 = {0} ∥ {1;2}, stage 2 = {3}; one thread-local system 4 -/
def P0 : APlan := ⟨.seq (.par (.leaf 0) (.seq (.leaf 1) (.leaf 2))) (.leaf 3), [4]⟩

open AEv AOp Th in
/-- dispatch; `running()` polled while 0 and 1 are open (true); a second `dispatch` issued
while the first is still running (it blocks); `running()` false after the end; `wait` with
the thread-local system; `world_mut` -/
def log0 : List AEv :=
  [call dispatch, sys worker 0 (.F 1), ret dispatch false, sys worker 0 (.F 0),
   call running, ret running true, sys worker 0 (.D 1), sys worker 0 (.F 2), sys worker 0 (.D 0),
   call running, sys worker 0 (.D 2), ret running true,
   call dispatch, sys worker 0 (.F 3), sys worker 0 (.D 3),
   sys worker 1 (.F 0), sys worker 1 (.F 1), ret dispatch false, sys worker 1 (.D 0), sys worker 1 (.D 1),
   sys worker 1 (.F 2), sys worker 1 (.D 2), sys worker 1 (.F 3), sys worker 1 (.D 3),
   call running, ret running true, call running, ret running false,
   call wait, tl caller (.F 4), tl caller (.D 4), ret wait false,
   call worldMut, ret worldMut false, call waitWithoutTl, ret waitWithoutTl false,
   call setup, hook caller 0, hook caller 1, hook caller 2, hook caller 3, hook caller 4, ret setup false,
   -- a third dispatch finishes on its own; it is first looked at by `mut_res`
   call dispatch, ret dispatch false, sys worker 2 (.F 0), sys worker 2 (.F 1), sys worker 2 (.D 1),
   sys worker 2 (.F 2), sys worker 2 (.D 2), sys worker 2 (.D 0), sys worker 2 (.F 3), sys worker 2 (.D 3),
   quiet, call mutRes, ret mutRes false, quiet,
   -- a fourth one is polled while system 0 is open, then `res` blocks until the end
   call dispatch, ret dispatch false, sys worker 3 (.F 0), call running, ret running true, call res,
   sys worker 3 (.F 1), sys worker 3 (.D 1), sys worker 3 (.F 2), sys worker 3 (.D 2), sys worker 3 (.D 0),
   sys worker 3 (.F 3), sys worker 3 (.D 3), ret res false, quiet]

example : acceptsLog P0 log0 = true := by decide +kernel
example : ∃ c, Run P0 c log0 := accepted_is_run (by decide +kernel)
example : P0.job.sys.Nodup := by decide +kernel
/-- at the first `ret running true` systems 0 and 1 of dispatch 0 are open -/
example : OpenAt (log0.take 5) 0 0 ∧ OpenAt (log0.take 5) 0 1 := by unfold OpenAt; decide +kernel

open AEv AOp Th in
/-- refused: `wait_without_tl` returns while system 0 is still inside `run` -/
example : acceptsLog P0 [call dispatch, ret dispatch false, sys worker 0 (.F 0), call waitWithoutTl,
    ret waitWithoutTl false] = false := by decide +kernel
open AEv AOp Th in
/-- refused: `running()` answers `false` while system 0 is open -/
example : acceptsLog P0 [call dispatch, ret dispatch false, sys worker 0 (.F 0), call running,
    ret running false] = false := by decide +kernel
open AEv AOp Th in
/-- refused: the second dispatch starts before the first is complete -/
example : acceptsLog P0 [call dispatch, ret dispatch false, sys worker 0 (.F 0), call dispatch,
    sys worker 1 (.F 1)] = false := by decide +kernel
open AEv AOp Th in
/-- refused: the completion signal while system 0 is inside `run`, or inside an operation -/
example : acceptsLog P0 [call dispatch, ret dispatch false, sys worker 0 (.F 0), quiet] = false ∧
    acceptsLog P0 [call world, quiet] = false := by decide +kernel
open AEv AOp Th in
/-- refused: the first dispatch finishes on its own and is first looked at by `world_mut`
(resp. `mut_res`, `setup`); the second is still running (system 0 open) when `wait`
(resp. `res`, `running() = false`) returns -/
example :
    let pre (x : AOp) := [call dispatch, ret dispatch false, sys worker 0 (.F 0), sys worker 0 (.F 1),
      sys worker 0 (.D 1), sys worker 0 (.F 2), sys worker 0 (.D 2), sys worker 0 (.D 0), sys worker 0 (.F 3),
      sys worker 0 (.D 3), quiet, call x, ret x false, call dispatch, ret dispatch false, sys worker 1 (.F 0)]
    acceptsLog P0 (pre worldMut ++ [call wait, ret wait false]) = false ∧
    acceptsLog P0 (pre mutRes ++ [call res, ret res false]) = false ∧
    acceptsLog P0 (pre setup ++ [call running, ret running false]) = false := by
  decide +kernel
open AEv AOp Th in
/-- refused: a thread-local system outside `wait`, or on a worker -/
example : acceptsLog ⟨.nil, [4]⟩ [call world, tl caller (.F 4)] = false ∧
    acceptsLog ⟨.nil, [4]⟩ [call wait, tl worker (.F 4)] = false := by decide +kernel

open AEv AOp Th in
/-- system 1 of the first stage panics while its sibling 0 is inside `run`: `running()` is still
true; the sibling finishes, the sender is dropped (`gone`: the pool's panic handler was seen);
then each of the nine methods unwinds; stage 2 (system 3) never runs -/
def log1 : List AEv :=
  [call dispatch, ret dispatch false, sys worker 0 (.F 0), sys worker 0 (.F 1), sysP worker 0 1,
   call running, ret running true, call wait, sys worker 0 (.D 0), unwound wait, gone,
   call running, unwound running, call dispatch, unwound dispatch, call waitWithoutTl, unwound waitWithoutTl,
   call world, unwound world, call res, unwound res, call worldMut, unwound worldMut, call mutRes, unwound mutRes,
   call setup, unwound setup, call wait, unwound wait, gone]

example : acceptsLog P0 log1 = true := by decide +kernel
/-- the hypothesis of the `job_panic_*` theorems holds of the prefix before `call running` -/
example : AEv.sysP .worker 0 1 ∈ log1.take 5 := by decide +kernel

open AEv AOp Th in
/-- refused after that panic: `wait` returns; `running()` answers false; a thread-local system
starts; the call unwinds while the sibling is still inside `run`; a later dispatch starts;
the panic of a system that is not inside its window -/
example :
    let pre := [call dispatch, ret dispatch false, sys worker 0 (.F 0), sys worker 0 (.F 1), sysP worker 0 1]
    acceptsLog P0 (pre ++ [sys worker 0 (.D 0), call wait, ret wait false]) = false ∧
    acceptsLog P0 (pre ++ [sys worker 0 (.D 0), call running, ret running false]) = false ∧
    acceptsLog P0 (pre ++ [sys worker 0 (.D 0), call wait, tl caller (.F 4)]) = false ∧
    acceptsLog P0 (pre ++ [call world, unwound world]) = false ∧
    acceptsLog P0 (pre ++ [sys worker 0 (.D 0), sys worker 0 (.F 3)]) = false ∧
    acceptsLog P0 (pre ++ [sys worker 0 (.D 1)]) = false ∧
    acceptsLog P0 [call dispatch, ret dispatch false, sys worker 0 (.F 0), sysP worker 0 1] = false := by
  decide +kernel

/-- one system, two thread-local systems -/
def P1 : APlan := ⟨.leaf 0, [4, 5]⟩

open AEv AOp Th in
/-- the second thread-local system panics inside the first `wait` (which unwinds); the next
`wait` runs both again; then the first one panics: the second does not start in that `wait` -/
def log2 : List AEv :=
  [call dispatch, ret dispatch false, sys worker 0 (.F 0), sys worker 0 (.D 0),
   call wait, tl caller (.F 4), tl caller (.D 4), tl caller (.F 5), tlP caller 5, unwound wait,
   call running, ret running false,
   call wait, tl caller (.F 4), tl caller (.D 4), tl caller (.F 5), tl caller (.D 5), ret wait false,
   call dispatch, ret dispatch false, call wait, sys worker 1 (.F 0), sys worker 1 (.D 0),
   tl caller (.F 4), tlP caller 4, unwound wait,
   call setup, hook caller 0, hook caller 4, hook caller 5, ret setup false,
   call wait, tl caller (.F 4), tl caller (.D 4), tl caller (.F 5), tl caller (.D 5), ret wait false]

example : acceptsLog P1 log2 = true := by decide +kernel

open AEv AOp Th in
/-- refused: after the panic of thread-local system 4 the next one starts in the same `wait`;
`wait` returns normally; the `wait` after a panic skips a thread-local system; a call unwinds
although nothing panicked -/
example :
    let pre := [call wait, tl caller (.F 4), tlP caller 4]
    acceptsLog P1 (pre ++ [tl caller (.F 5)]) = false ∧
    acceptsLog P1 (pre ++ [ret wait false]) = false ∧
    acceptsLog P1 (pre ++ [unwound wait, call wait, ret wait false]) = false ∧
    acceptsLog P1 (pre ++ [unwound wait, call wait, tl caller (.F 5)]) = false ∧
    acceptsLog P1 [call world, unwound world] = false ∧
    acceptsLog P1 [call dispatch, ret dispatch false, sys worker 0 (.F 0), call wait, unwound wait] = false := by
  decide +kernel

open AEv AOp Th in
/-- `setup` called while system 0 is inside `run`, while the job has not started, and after the
job has finished unobserved: it returns after the job's end and after every hook -/
def log3 : List AEv :=
  [call dispatch, ret dispatch false, sys worker 0 (.F 0), call setup, sys worker 0 (.D 0),
   hook caller 0, hook caller 4, hook caller 5, ret setup false,
   call dispatch, ret dispatch false, call setup, sys worker 1 (.F 0), sys worker 1 (.D 0),
   hook caller 0, hook caller 4, hook caller 5, ret setup false,
   call dispatch, ret dispatch false, sys worker 2 (.F 0), sys worker 2 (.D 0), quiet,
   call setup, hook caller 0, hook caller 4, hook caller 5, ret setup false]

example : acceptsLog P1 log3 = true := by decide +kernel

open AEv AOp Th in
/-- refused: `setup` returns without having called a hook (idle, or while system 0 is inside
`run`); a hook is called while system 0 is inside `run`; a hook is left out, called twice or out
of order; a hook outside `setup` -/
example :
    acceptsLog P1 [call setup, ret setup false] = false ∧
    acceptsLog P1 [call dispatch, ret dispatch false, sys worker 0 (.F 0), call setup, ret setup false] = false ∧
    acceptsLog P1 [call dispatch, ret dispatch false, sys worker 0 (.F 0), call setup, hook caller 0] = false ∧
    acceptsLog P1 [call setup, hook caller 0, hook caller 5] = false ∧
    acceptsLog P1 [call setup, hook caller 0, hook caller 4, ret setup false] = false ∧
    acceptsLog P1 [call setup, hook caller 0, hook caller 0] = false ∧
    acceptsLog P1 [call world, hook caller 0] = false := by
  decide +kernel

/-! a plan of nine stages (what the builder makes of nine systems that all write one resource) -/
def P9 : APlan := chainPlan [0, 1, 2, 3, 4, 5, 6, 7, 8] [9]

/-- one pass over the nine stages, as dispatch number `d` logs it -/
def pass9 (d : Nat) : List AEv := (List.range 9).flatMap fun x => [AEv.sys .worker d (.F x), AEv.sys .worker d (.D x)]

open AEv AOp Th in
/-- two dispatches of the nine-stage plan: the second is issued while the first is in its eighth
stage (it blocks), the thread-local system runs inside the final `wait` -/
def log9 : List AEv :=
  [call dispatch, ret dispatch false] ++ (pass9 0).take 15 ++ [call dispatch] ++ (pass9 0).drop 15 ++
  (pass9 1).take 4 ++ [ret dispatch false, call running, ret running true] ++ (pass9 1).drop 4 ++
  [call wait, tl caller (.F 9), tl caller (.D 9), ret wait false]

example : acceptsLog P9 log9 = true := by decide +kernel
/-- the hypotheses of `chain_each_stage_once` hold at the final `ret wait` (two completed dispatches) -/
example : dispatches (log9.take 45) = 2 := by decide +kernel
open AEv AOp Th in
/-- refused: the eighth stage runs a second time (after its first run, or after the last stage),
before or after completion is reported -/
example :
    acceptsLog P9 ([call dispatch, ret dispatch false] ++ (pass9 0).take 16 ++ [sys worker 0 (.F 7)]) = false ∧
    acceptsLog P9 ([call dispatch, ret dispatch false] ++ pass9 0 ++ [sys worker 0 (.F 7)]) = false ∧
    acceptsLog P9 ([call dispatch, ret dispatch false] ++ pass9 0 ++ [call wait, sys worker 0 (.F 8)]) = false ∧
    acceptsLog P9 ([call dispatch, ret dispatch false] ++ pass9 0 ++
      [call waitWithoutTl, ret waitWithoutTl false, sys worker 0 (.F 8)]) = false := by
  decide +kernel
open AEv AOp Th in
/-- refused in every calling context: `wait_without_tl` returns while the system of the third stage
is inside `run` (the pool having nothing queued does not make the dispatch complete); an ordinary
system on the thread that drives the dispatcher -/
example :
    acceptsLog P9 ([call dispatch, ret dispatch false] ++ (pass9 0).take 5 ++
      [call waitWithoutTl, ret waitWithoutTl false]) = false ∧
    acceptsLog P9 [call dispatch, ret dispatch false, call waitWithoutTl, sys caller 0 (.F 0)] = false := by
  decide +kernel

end Async
end Shred

#print axioms Shred.Async.accessor_quiescent
#print axioms Shred.Async.accessor_none_open
#print axioms Shred.Async.dispatch_quiescent
#print axioms Shred.Async.running_true_while_open
#print axioms Shred.Async.running_false_only_done
#print axioms Shred.Async.running_false_state
#print axioms Shred.Async.no_overtake
#print axioms Shred.Async.no_overtake_D
#print axioms Shred.Async.tl_only_in_wait
#print axioms Shred.Async.sys_on_worker
#print axioms Shred.Async.wait_runs_tl
#print axioms Shred.Async.each_once
#print axioms Shred.Async.each_at_most_once
#print axioms Shred.Async.scenario_each_once
#print axioms Shred.Async.accepted_is_run
#print axioms Shred.Async.quiet_quiescent
#print axioms Shred.Async.quiet_stutters
#print axioms Shred.Async.blocked_only_while_running
#print axioms Shred.Async.job_panic_no_return
#print axioms Shred.Async.job_panic_no_tl
#print axioms Shred.Async.job_panic_no_hook
#print axioms Shred.Async.job_panic_no_quiet
#print axioms Shred.Async.job_panic_no_next_dispatch
#print axioms Shred.Async.job_panic_inside
#print axioms Shred.Async.dead_every_call_unwinds
#print axioms Shred.Async.unwound_cases
#print axioms Shred.Async.tl_panic_keeps_dispatcher
#print axioms Shred.Async.tl_panic_state
#print axioms Shred.Async.setup_reaches
#print axioms Shred.Async.hook_only_in_setup
#print axioms Shred.Async.chain_traces
#print axioms Shred.Async.chain_each_stage_once
