import ShredModel.Lemmas.SysData
/-!
# C06: declared access = real borrows, for every provided or derived system-data type

`SD` (Model/SysData.lean) is the closure of `Read`/`Write` (any setup handler), their `Option`
forms, `()`, `PhantomData`, tuples and derived structs under nesting. All statements are for
every `sd : SD`, every presence pattern `p` of the resources and every borrow state `fl` the
cells are in when `fetch` is called (other systems may hold guards).

"Exactly" is meant as multisets: a type listing `Read<A>` twice reports `A` twice and holds two
shared guards on `A`.
-/
namespace Shred.SysData

def sharedOn (ts : List Tag) : List Guard := ts.map fun t => ⟨t, false⟩
def exclOn (ts : List Tag) : List Guard := ts.map fun t => ⟨t, true⟩

def allFree : Flags := fun _ => .free

theorem reads_concat (ms : List SD) :
    reads (.tuple ms) = ms.flatMap reads ∧ reads (.struct ms) = ms.flatMap reads := by
  simp [reads, readsL_flatMap]

theorem writes_concat (ms : List SD) :
    writes (.tuple ms) = ms.flatMap writes ∧ writes (.struct ms) = ms.flatMap writes := by
  simp [writes, writesL_flatMap]

theorem setup_comp (henv : HEnv) (dv : Tag → Nat) (ms : List SD) (w : Vals) :
    setup henv dv (.tuple ms) w = ms.foldl (fun w m => setup henv dv m w) w ∧
    setup henv dv (.struct ms) w = ms.foldl (fun w m => setup henv dv m w) w := by
  simp [setup, setupL_foldl]

/-- `fetch` of a tuple / struct is the left-to-right sequence of the members' fetches, a panic
in a member dropping what the earlier members hold (`seqF`). -/
theorem fetch_comp (p : Tag → Bool) (m : SD) (ms : List SD) (fl : Flags) :
    fetch p (.tuple (m :: ms)) fl = seqF (fetch p m fl) (fun fl1 => fetch p (.tuple ms) fl1) ∧
    fetch p (.struct (m :: ms)) fl = seqF (fetch p m fl) (fun fl1 => fetch p (.struct ms) fl1) := by
  simp only [fetch, fetchL_cons, and_self]

/-- **C06 (borrows).** If `fetch` returns, the guards the value owns are — as a multiset — one
shared guard per occurrence in `reads()` of a present resource and one exclusive guard per
occurrence in `writes()` of a present resource; and the flag of every cell is what these guards
make of it: untouched for absent or unlisted resources, `excl` for a written one, `r` more
shared borrows for one read `r` times. -/
theorem fetch_borrows_exactly (p : Tag → Bool) (sd : SD) (fl fl' : Flags) (gs : List Guard)
    (h : fetch p sd fl = (fl', .ok gs)) :
    gs.Perm (sharedOn ((reads sd).filter p) ++ exclOn ((writes sd).filter p)) ∧
    ∀ t, fl' t = if p t then flagAfter (fl t) ((reads sd).count t) ((writes sd).count t) else fl t := by
  refine ⟨?_, (fetch_ok h).cell⟩
  rw [(fetch_ok h).guards, reads_flat, writes_flat]
  exact guardsOf_perm p _

/-- a present resource listed in `writes()` is borrowed exclusively; it was free before, is listed
once, and is not also listed in `reads()` -/
theorem fetch_write_excl (p : Tag → Bool) (sd : SD) (fl fl' : Flags) (gs : List Guard)
    (h : fetch p sd fl = (fl', .ok gs)) (t : Tag) (hp : p t = true) (hw : t ∈ writes sd) :
    fl' t = .excl ∧ fl t = .free ∧ (writes sd).count t = 1 ∧ t ∉ reads sd := by
  rw [(fetch_ok h).cell t, if_pos hp, ← List.count_eq_zero]
  exact flagAfter_of_write ((fetch_ok h).noClash t hp) (List.count_pos_iff.mpr hw)

/-- a present resource listed `r > 0` times in `reads()` carries `r` more shared borrows (and is
not listed in `writes()`, and was not exclusively borrowed) -/
theorem fetch_read_shared (p : Tag → Bool) (sd : SD) (fl fl' : Flags) (gs : List Guard)
    (h : fetch p sd fl = (fl', .ok gs)) (t : Tag) (hp : p t = true) (hr : t ∈ reads sd) :
    fl' t = addShared (fl t) ((reads sd).count t) ∧ fl t ≠ .excl ∧ t ∉ writes sd := by
  rw [(fetch_ok h).cell t, if_pos hp, ← List.count_eq_zero]
  exact flagAfter_of_read ((fetch_ok h).noClash t hp) (List.count_pos_iff.mpr hr)

/-- nothing else is touched: a resource that is absent, or listed in neither `reads()` nor
`writes()`, keeps its flag -/
theorem fetch_nothing_else (p : Tag → Bool) (sd : SD) (fl fl' : Flags) (gs : List Guard)
    (h : fetch p sd fl = (fl', .ok gs)) (t : Tag)
    (ht : p t = false ∨ (t ∉ reads sd ∧ t ∉ writes sd)) : fl' t = fl t := by
  rw [(fetch_ok h).cell t]
  rcases ht with hp | ⟨hr, hw⟩
  · simp [hp]
  · simp [List.count_eq_zero.mpr hr, List.count_eq_zero.mpr hw]

/-- **C06 (failure).** `fetch` panics iff a non-optional member's resource is absent, or some
present resource cannot be borrowed as declared (`Conflict`: written while borrowed, read while
exclusively borrowed, listed in both `reads()` and `writes()`, or listed twice in `writes()`). -/
theorem fetch_fail_iff (p : Tag → Bool) (sd : SD) (fl : Flags) :
    (∃ fl' e, fetch p sd fl = (fl', .error e)) ↔
      (∃ t ∈ required sd, p t = false) ∨ (∃ t, p t = true ∧ Conflict fl (reads sd) (writes sd) t) := by
  constructor
  · rintro ⟨fl', e, h⟩
    have := (fetch_err h).2
    cases e with
    | absent t => exact Or.inl ⟨t, this⟩
    | borrowed t => exact Or.inr ⟨t, this⟩
  · intro hrhs
    rcases hres : fetch p sd fl with ⟨fl', e | gs⟩
    · exact ⟨fl', e, rfl⟩
    · rcases hrhs with ⟨t, ht, hp⟩ | ⟨t, hp, hc⟩
      · exact absurd ((fetch_ok hres).required t ht) (hp ▸ Bool.false_ne_true)
      · exact absurd (conflict_iff_clash.mp hc) ((fetch_ok hres).noClash t hp)

/-- the panic names a resource that really is the reason -/
theorem fetch_panic_sound (p : Tag → Bool) (sd : SD) (fl fl' : Flags) (e : Panic)
    (h : fetch p sd fl = (fl', .error e)) :
    PanicReason p fl (required sd) (reads sd) (writes sd) e :=
  (fetch_err h).2

/-- **C06 (failure releases).** When `fetch` panics every guard taken on the way has been
released by unwinding: the borrow state is what it was. -/
theorem fetch_fail_releases (p : Tag → Bool) (sd : SD) (fl fl' : Flags) (e : Panic)
    (h : fetch p sd fl = (fl', .error e)) : fl' = fl :=
  (fetch_err h).1

/-- **C06 (release).** Dropping the fetched value — its guards in field order, or in any other
order — restores the borrow state from before the fetch. -/
theorem drop_releases (p : Tag → Bool) (sd : SD) (fl fl' : Flags) (gs : List Guard)
    (h : fetch p sd fl = (fl', .ok gs)) :
    drop fl' gs = fl ∧ ∀ gs', gs'.Perm gs → drop fl' gs' = fl := by
  have := (fetch_ok h).drop
  exact ⟨this, fun gs' hperm => by rw [drop_perm fl' hperm, this]⟩

/-- every user `SetupHandler` occurring in `sd` satisfies `P` -/
def CustomHandlers (henv : HEnv) (P : (Vals → Vals) → Prop) (sd : SD) : Prop :=
  CustomAll henv P (handlers sd)

/-- **C06 (setup preserves).** `setup` never changes a resource that was present — provided the
user handlers in the type do not (`DefaultProvider`, `PanicHandler` and the `Option` forms never
do). -/
theorem setup_preserves (henv : HEnv) (dv : Tag → Nat) (sd : SD)
    (hc : CustomHandlers henv Preserves sd) (w : Vals) (t : Tag) (v : Nat) (h : w t = some v) :
    setup henv dv sd w t = some v := by
  rw [setup_flat]
  exact setupH_preserves henv dv _ hc w t v h

/-- **C06 (setup creates).** After `setup` the resource of every `Read<T>` / `Write<T>` member
with the default handler is present — provided no user handler in the type removes resources. -/
theorem setup_creates (henv : HEnv) (dv : Tag → Nat) (sd : SD)
    (hc : CustomHandlers henv KeepsPresent sd) (w : Vals) (t : Tag) (h : t ∈ defaults sd) :
    (setup henv dv sd w t).isSome = true := by
  rw [setup_flat]
  exact setupH_creates henv dv _ hc t (mem_defaults.mp h) w

/-- consequence: if every non-optional member uses the default handler, `fetch` after `setup`
can only fail on a borrow conflict, never on absence -/
theorem setup_then_fetch (henv : HEnv) (dv : Tag → Nat) (sd : SD)
    (hc : CustomHandlers henv KeepsPresent sd) (hreq : ∀ t ∈ required sd, t ∈ defaults sd)
    (w : Vals) (fl fl' : Flags) (e : Panic)
    (h : fetch (fun t => (setup henv dv sd w t).isSome) sd fl = (fl', .error e)) :
    ∃ t, e = .borrowed t := by
  have := fetch_panic_sound _ sd fl fl' e h
  cases e with
  | borrowed t => exact ⟨t, rfl⟩
  | absent t =>
    exfalso
    simp only [PanicReason] at this
    have hs := setup_creates henv dv sd hc w t (hreq t this.1)
    rw [hs] at this
    exact absurd this.2 (by simp)

/-- `(Read<R0>, S { Option<WriteExpect<R1>>, WriteExpect<R2> }, (), (Read<R0, HIns>, PhantomData))` -/
def exSD : SD :=
  .tuple [.leaf false .dflt 0, .struct [.opt true .expect 1, .leaf true .expect 2], .unit,
          .tuple [.leaf false (.custom 0) 0, .phantom]]

/-- a fetch that succeeds (resource 1 absent): two shared guards on 0, one exclusive on 2 -/
example : (fetch (fun t => t != 1) exSD allFree).2 = .ok [⟨0, false⟩, ⟨2, true⟩, ⟨0, false⟩] := by rfl
example : (fetch (fun t => t != 1) exSD allFree).1 0 = .shared 1 := by decide +kernel
example : reads exSD = [0, 0] ∧ writes exSD = [1, 2] := by decide +kernel
/-- a fetch that panics on absence, after having borrowed (and released) resource 0 -/
example : (fetch (fun t => t != 2) exSD allFree).2 = .error (.absent 2) := by rfl
/-- a fetch that panics on a conflict with a guard held by someone else -/
example : (fetch (fun _ => true) exSD (upd allFree 2 (.shared 0))).2 = .error (.borrowed 2) := by rfl
/-- a type that conflicts with itself -/
example : (fetch (fun _ => true) (.tuple [.leaf false .dflt 0, .leaf true .dflt 0]) allFree).2
    = .error (.borrowed 0) := by rfl
/-- the handler hypotheses are satisfiable: the harness handler `HIns` (number 0) preserves -/
example : CustomHandlers stdEnv KeepsPresent exSD := by
  intro k t hm
  have : k = 0 := by simp [exSD, handlers, handlersL] at hm; exact hm.1
  subst this
  exact stdEnv_keeps_unless_del 0 t (by decide)
/-- … and the hypothesis of `setup_then_fetch` (`required ⊆ defaults`) by a type with a member -/
example : ∀ t ∈ required (.tuple [.leaf false .dflt 0, .opt true .expect 1]),
    t ∈ defaults (.tuple [.leaf false .dflt 0, .opt true .expect 1]) := by decide +kernel
example : setup stdEnv stdDefault exSD (fun _ => none) 0 = some 500 := by rfl

#print axioms reads_concat
#print axioms writes_concat
#print axioms setup_comp
#print axioms fetch_comp
#print axioms fetch_borrows_exactly
#print axioms fetch_write_excl
#print axioms fetch_read_shared
#print axioms fetch_nothing_else
#print axioms fetch_fail_iff
#print axioms fetch_panic_sound
#print axioms fetch_fail_releases
#print axioms drop_releases
#print axioms setup_preserves
#print axioms setup_creates
#print axioms setup_then_fetch
end Shred.SysData
