import ShredModel.Lemmas.Examples
import ShredModel.Lemmas.Expand
/-!
# C07 — a batch is isolated as the union of its controller and everything inside it

**The accessor.** What `add_batch` declares for the batch is exactly the controller's declared
data plus what the systems registered in the inner builder declare (`C07_batch_reads/_writes`),
so whoever conflicts with something inside conflicts with the batch (`C07_conflict_lifts`).

**The executions, at any nesting depth.** A `Level D` is a built dispatcher whose batches were
built the same way; `C07_level_of_registrations` obtains one from *every* registration sequence
run through the tagged five-table builder the driver executes, `C07_body_of_level` turns an
inner level into the body of a batch (declared with the accessor `add_batch` computes; the inner
level has no thread-local systems: the open finding KF1). For every level, every prefix and
every trace of `dispatch` or `dispatch_seq` — every interleaving — `C07_nested_isolation`,
`C07_nested_exactly_once`, `C07_nested_order`, `C07_nested_inner_order` hold: outside systems
never overlap a batch they conflict with (neither its controller's data nor anything inside),
and inside the batch the inner systems enjoy isolation, ordering and exactly-once on every
inner dispatch.
-/
namespace Shred

/-- **C07 (accessor, reads).** -/
theorem C07_batch_reads {D Dep g z} (h : GoodZ D Dep g z) (inner : DispatcherBuilder)
    (hinner : inner.stagesBuilder = g.b) (ctl : Decl) (x : ResId) :
    x ∈ (DispatcherBuilder.batchDecl inner ctl).reads ↔ x ∈ ctl.reads ∨ ∃ s, s < g.n ∧ x ∈ (D s).reads :=
  batchDecl_reads h inner hinner ctl x

/-- **C07 (accessor, writes).** -/
theorem C07_batch_writes {D Dep g z} (h : GoodZ D Dep g z) (inner : DispatcherBuilder)
    (hinner : inner.stagesBuilder = g.b) (ctl : Decl) (x : ResId) :
    x ∈ (DispatcherBuilder.batchDecl inner ctl).writes ↔ x ∈ ctl.writes ∨ ∃ s, s < g.n ∧ x ∈ (D s).writes :=
  batchDecl_writes h inner hinner ctl x

/-- **C07 (conflicts lift).** Whoever conflicts with an inner system, or with the controller's
data, conflicts with the batch as the outer scheduler sees it. -/
theorem C07_conflict_lifts {D Dep g z} (h : GoodZ D Dep g z) (inner : DispatcherBuilder)
    (hinner : inner.stagesBuilder = g.b) (ctl : Decl) (a : Decl) :
    (∀ s, s < g.n → conflictsD a (D s) → conflictsD a (DispatcherBuilder.batchDecl inner ctl)) ∧
    (conflictsD a ctl → conflictsD a (DispatcherBuilder.batchDecl inner ctl)) :=
  ⟨fun s hs hc => conflict_lifts h inner hinner ctl a s hs hc,
   conflictsD_mono (Sub.refl a) (sub_batchDecl_ctl inner ctl)⟩

/-- **C07 (nesting by expansion).** Replacing every batch leaf of a well-formed outer task by the
scope around its (well-formed) body keeps the task well-formed. -/
theorem C07_nested_wf {ι : Type} [DecidableEq ι] {C : ι → ι → Prop} {σ : ι → Option (Task ι)} {t : Task ι}
    (ht : WF C t) (hbody : ∀ s body, σ s = some body → WF C body)
    (hl : ∀ s body, σ s = some body → ∀ x y, y ∈ body.sys → C x s → C x y)
    (hr : ∀ s body, σ s = some body → ∀ x y, y ∈ body.sys → C s x → C y x) :
    WF C (t.expand σ) := wf_expand ht hbody hl hr

/-- **C07 (every registration sequence gives a level).** -/
theorem C07_level_of_registrations (sc : Scenario) (τ : Nat → SysTag) (D' : SysTag → Decl)
    (hτ : ∀ i j, i < sc.final.n → j < sc.final.n → τ i = τ j → i = j)
    (hD : ∀ i, i < sc.final.n → D' (τ i) = sc.D i) (tl : List SysTag) (htl : tl.Nodup)
    (hfresh : ∀ i, i < sc.final.n → τ i ∉ tl) (bs : List (SysTag × Body)) (hbs : BodiesOK D' bs) :
    ∃ L : Level D', L.stages = (runOpsT τ sc.ops).1.stages ∧ L.tl = tl ∧ L.bs = bs :=
  ⟨sc.level τ D' hτ hD tl htl hfresh bs hbs, rfl, rfl, rfl⟩

/-- **C07 (an inner level is a good body for the accessor `add_batch` computes).** -/
theorem C07_body_of_level (sc : Scenario) (τ : Nat → SysTag) (D' : SysTag → Decl)
    (hτ : ∀ i j, i < sc.final.n → j < sc.final.n → τ i = τ j → i = j)
    (hD : ∀ i, i < sc.final.n → D' (τ i) = sc.D i) (bs : List (SysTag × Body)) (hbs : BodiesOK D' bs)
    (inner : DispatcherBuilder) (hinner : inner.stagesBuilder = (runOpsT τ sc.ops).1) (ctl : Decl)
    (par : Bool) (n : Nat) :
    BodyOK D' (batchBody par (runOpsT τ sc.ops).1.stages [] bs n) (DispatcherBuilder.batchDecl inner ctl) :=
  (sc.level τ D' hτ hD [] List.nodup_nil (fun _ _ h => by cases h) bs hbs).body rfl par n _
    (sub_batchDecl sc τ D' hD inner hinner ctl)

variable {D : SysTag → Decl} (L : Level D)

/-- **C07 / C01 (isolation at any depth).** At every moment of every execution, two distinct
instances that are both inside their window are a batch and something inside it, or have
non-conflicting declared access. -/
theorem C07_nested_isolation (par : Bool) (pfx : Inst) (l : List (Ev Inst)) (hl : Traces (L.task par pfx) l)
    (p : List (Ev Inst)) (hp : p <+: l) (x y : Inst) (hxy : x ≠ y) (hx : OpenIn x p) (hy : OpenIn y p) :
    Anc (L.task par pfx) x y ∨ Anc (L.task par pfx) y x ∨ ¬ conflictsD (D (lastTag x)) (D (lastTag y)) :=
  L.isolated hl hp hxy hx hy

/-- **C07 / C04 (exactly once at any depth).** -/
theorem C07_nested_exactly_once (par : Bool) (pfx : Inst) (l : List (Ev Inst)) (hl : Traces (L.task par pfx) l)
    (x : Inst) (hx : x ∈ (L.task par pfx).sys) : l.count (Ev.F x) = 1 ∧ l.count (Ev.D x) = 1 :=
  L.once hl hx

/-- **C07 / C02 / C03 (order at any depth).** If the layout puts `A` before `B`, everything under
`A` has dropped its data before anything under `B` begins to fetch. -/
theorem C07_nested_order (par : Bool) (pfx : Inst) (l : List (Ev Inst)) (hl : Traces (L.task par pfx) l)
    {A B : SysTag} (hAB : TOrdered L.stages A B) {x y : Inst}
    (hx : x ∈ (leafOf L.bs pfx A).sys) (hy : y ∈ (leafOf L.bs pfx B).sys)
    (l1 l2 : List (Ev Inst)) (hsplit : l = l1 ++ Ev.F y :: l2) : Ev.D x ∈ l1 :=
  L.ordered hl hAB hx hy hsplit

/-- **C07 / C12 (thread-local systems last, at any depth).** -/
theorem C07_nested_tl_last (par : Bool) (pfx : Inst) (l : List (Ev Inst)) (hl : Traces (L.task par pfx) l)
    {A u : SysTag} (hA : A ∈ L.stages.flatten.flatten) (hu : u ∈ L.tl) {x : Inst}
    (hx : x ∈ (leafOf L.bs pfx A).sys)
    (l1 l2 : List (Ev Inst)) (hsplit : l = l1 ++ Ev.F (pfx ++ [u]) :: l2) : Ev.D x ∈ l1 :=
  L.precedes hl (before_dispatchOf_tl (k := (pfx ++ [·])) hA hu hx) hsplit

/-- **C07 (the order inside a batch holds in the enclosing dispatcher).** -/
theorem C07_nested_inner_order (par : Bool) (pfx : Inst) (l : List (Ev Inst)) (hl : Traces (L.task par pfx) l)
    {t : SysTag} {b : Body} (ht : t ∈ L.stages.flatten.flatten) (hb : findBody L.bs t = some b)
    {x y : Inst} (hxy : Before (b (pfx ++ [t])) x y)
    (l1 l2 : List (Ev Inst)) (hsplit : l = l1 ++ Ev.F y :: l2) : Ev.D x ∈ l1 :=
  L.precedes hl (before_nested_inner par L.tl pfx ht hb hxy) hsplit

/-- **C07 (inner dispatches run one after the other).** A batch whose controller dispatches its
inner dispatcher `n` times: in every execution of the enclosing dispatcher, every system of inner
dispatch `i` (staged or thread-local, at any depth below it) has dropped its data before any system
of a later inner dispatch `j` begins to fetch. (This is what the trace engine's ordering oracle over
instance paths checks on every event log.) -/
theorem C07_inner_dispatches_in_order (par : Bool) (pfx : Inst) (l : List (Ev Inst)) (hl : Traces (L.task par pfx) l)
    {t : SysTag} (ht : t ∈ L.stages.flatten.flatten)
    {ipar : Bool} {stages : Table (List SysTag)} {tl : List SysTag} {bs : List (SysTag × Body)} {n : Nat}
    (hb : findBody L.bs t = some (batchBody ipar stages tl bs n))
    {i j : Nat} (hij : i < j) (hj : j < n) {x y : Inst}
    (hx : x ∈ (nDispatchTask ipar stages tl bs (pfx ++ [t] ++ [i])).sys)
    (hy : y ∈ (nDispatchTask ipar stages tl bs (pfx ++ [t] ++ [j])).sys)
    (l1 l2 : List (Ev Inst)) (hsplit : l = l1 ++ Ev.F y :: l2) : Ev.D x ∈ l1 :=
  C07_nested_inner_order L par pfx l hl ht hb
    (before_iterBody_lt (Nat.zero_le i) hij (by rwa [Nat.zero_add]) hx hy) l1 l2 hsplit

/-- non-vacuity of `C07_inner_dispatches_in_order`: in `exLevel` batch `1` is dispatched twice, its
body is a `batchBody`, and `[1, 0, 6]` (inner dispatch 0) and `[1, 1, 5]` (inner dispatch 1) are systems of it -/
example : findBody exLevel.bs 1 = some (batchBody true [[[5]], [[6]]] [] [] 2) ∧ (1 : Nat) ∈ exLevel.stages.flatten.flatten ∧
    ([1, 0, 6] : Inst) ∈ (nDispatchTask true [[[5]], [[6]]] [] [] ([] ++ [1] ++ [0])).sys ∧
    ([1, 1, 5] : Inst) ∈ (nDispatchTask true [[[5]], [[6]]] [] [] ([] ++ [1] ++ [1])).sys := by
  refine ⟨rfl, by decide +kernel, by decide +kernel, by decide +kernel⟩

/-- non-vacuity: `exLevel` is a `Level` with a batch whose body is dispatched twice; the inner
stages `[[5]], [[6]]` order `5` before `6` in every iteration -/
example : (exLevel.task true []).sys = [[0], [1], [1, 0, 5], [1, 0, 6], [1, 1, 5], [1, 1, 6], [2]] ∧
    TOrdered [[[5]], [[6]]] 5 6 := by
  refine ⟨by decide +kernel, Or.inl ⟨0, 1, [[5]], [[6]], by decide, rfl, rfl, by decide, by decide⟩⟩
end Shred

#print axioms Shred.C07_inner_dispatches_in_order
#print axioms Shred.C07_batch_reads
#print axioms Shred.C07_batch_writes
#print axioms Shred.C07_conflict_lifts
#print axioms Shred.C07_nested_wf
#print axioms Shred.C07_level_of_registrations
#print axioms Shred.C07_body_of_level
#print axioms Shred.C07_nested_isolation
#print axioms Shred.C07_nested_exactly_once
#print axioms Shred.C07_nested_order
#print axioms Shred.C07_nested_tl_last
#print axioms Shred.C07_nested_inner_order
