import ShredModel.Lemmas.AddGlue
/-!
# C18: nothing in the builder panics except `add` on the two ill-formed registrations

`add` panics exactly on an unknown dependency or a taken name, and `has_system` predicts it.
Everything else is total: in the tables of every `Scenario` no group reaches `MAX_SYSTEMS_PER_GROUP`,
no running time leaves `u8`, no insertion target is out of bounds (the invariants of
`Lemmas/ZipMore.lean`, read on the five tables) — and every `DispatcherBuilder` holds the tables of a
`Scenario`.
-/
namespace Shred
namespace DispatcherBuilder

theorem resolve_error_iff (m : List (String × SysId)) (deps : List String) (x : String) :
    resolve m deps = .error x ↔
      ∃ pre post, deps = pre ++ x :: post ∧ lookup m x = none ∧ ∀ y, y ∈ pre → (lookup m y).isSome := by
  have : resolve m deps = .error x ↔ deps.find? (fun x => (lookup m x).isNone) = some x := by
    rw [resolve_eq]
    cases deps.find? fun x => (lookup m x).isNone with
    | none => exact ⟨(nomatch ·), (nomatch ·)⟩
    | some y => exact ⟨fun h => by cases h; rfl, fun h => by cases h; rfl⟩
  rw [this, List.find?_eq_some_iff_append]
  simp only [Option.isNone_iff_eq_none, Bool.not_eq_true', Option.isNone_eq_false_iff]
  exact ⟨fun ⟨hx, pre, post, e, hp⟩ => ⟨pre, post, e, hx, hp⟩, fun ⟨pre, post, e, hx, hp⟩ => ⟨hx, pre, post, e, hp⟩⟩

/-- **C18.** `add` panics iff a dependency names no registered system — then with the *first*
such name — or, all dependencies being known, the name is non-empty and already taken. -/
theorem add_panics_iff (b : DispatcherBuilder) (tag : SysTag) (name : String) (dep : List String)
    (d : Decl) (p : BuildPanic) :
    (b.add tag name dep d).2 = some p ↔
      (∃ x, p = .unknownDep x ∧ resolve b.map dep = .error x) ∨
      (p = .duplicateName name ∧ (∃ ids, resolve b.map dep = .ok ids) ∧ name ≠ "" ∧
        (lookup b.map name).isSome) := by
  rcases add_cases b tag name dep d with ⟨x, hr, he⟩ | ⟨ids, hr, hn, hl, he⟩ | ⟨ids, hr, hfree, he⟩ <;> rw [he, hr]
  · constructor
    · intro h; cases h; exact .inl ⟨x, rfl, rfl⟩
    · rintro (⟨y, rfl, hy⟩ | ⟨_, ⟨_, hids⟩, _⟩)
      · cases hy; rfl
      · cases hids
  · constructor
    · intro h; cases h; exact .inr ⟨rfl, ⟨ids, rfl⟩, hn, hl⟩
    · rintro (⟨y, _, hy⟩ | ⟨rfl, _⟩)
      · cases hy
      · rfl
  · constructor
    · intro h; cases h
    · rintro (⟨y, _, hy⟩ | ⟨_, _, hne, hl⟩)
      · cases hy
      · rcases hfree with h | h
        · exact absurd h hne
        · rw [h] at hl; cases hl

/-- **C18 (`has_system` / `contains` predict the rejections).** `add` is rejected exactly when
`has_system` is false for one of the dependencies, or — all of them known — true for the
non-empty name itself. -/
theorem C18_queries_predict_add (b : DispatcherBuilder) (tag : SysTag) (name : String) (dep : List String)
    (d : Decl) :
    (b.add tag name dep d).2 ≠ none ↔
      (∃ x, x ∈ dep ∧ b.hasSystem x = false) ∨ (name ≠ "" ∧ b.hasSystem name = true) := by
  rcases add_cases b tag name dep d with ⟨x, hr, he⟩ | ⟨_, _, hn, hl, he⟩ | ⟨_, hr, hfree, he⟩ <;> rw [he]
  · obtain ⟨pre, post, heq, hnone, _⟩ := (resolve_error_iff _ _ _).mp hr
    exact ⟨fun _ => .inl ⟨x, by rw [heq]; simp, by rw [hasSystem, hnone]; rfl⟩, fun _ h => nomatch h⟩
  · exact ⟨fun _ => .inr ⟨hn, hl⟩, fun _ h => nomatch h⟩
  · refine ⟨fun h => absurd rfl h, ?_⟩
    rintro (⟨x, hx, hf⟩ | ⟨hn, hl⟩)
    · rw [hasSystem, (resolve_ok hr).1 x hx] at hf; cases hf
    · rcases hfree with h | h
      · exact absurd h hn
      · rw [hasSystem, h] at hl; cases hl

/-- registrations that are well-formed never panic -/
theorem add_ok (b : DispatcherBuilder) (tag : SysTag) (name : String) (dep : List String) (d : Decl)
    (hdeps : ∀ x, x ∈ dep → (lookup b.map x).isSome) (hname : name = "" ∨ lookup b.map name = none) :
    (b.add tag name dep d).2 = none := by
  refine Decidable.not_not.mp (mt (C18_queries_predict_add b tag name dep d).mp ?_)
  rintro (⟨x, hx, hf⟩ | ⟨hn, hl⟩)
  · exact Bool.noConfusion ((hdeps x hx).symm.trans hf)
  · rcases hname with h | h
    · exact hn h
    · rw [hasSystem, h] at hl; cases hl

/-- `has_system name` becomes true by an accepted `add` under that non-empty name, and no other way -/
theorem C18_has_system_after_add (b : DispatcherBuilder) (tag : SysTag) (name : String) (dep : List String)
    (d : Decl) (q : String) :
    (b.add tag name dep d).1.hasSystem q =
      (b.hasSystem q || ((b.add tag name dep d).2 == none && name != "" && q == name)) := by
  rcases add_cases b tag name dep d with ⟨_, _, he⟩ | ⟨_, _, _, _, he⟩ | ⟨_, _, hfree, he⟩ <;> rw [he]
  · simp [hasSystem]
  · simp [hasSystem]
  · by_cases hn : name = ""
    · simp [hasSystem, hn]
    · have hnone : lookup b.map name = none := hfree.resolve_left hn
      simp only [hasSystem, hn, if_false, lookup_cons]
      by_cases hq : name = q
      · subst hq; simp [hnone, hn]
      · have : (q == name) = false := by simpa using fun h => hq h.symm
        simp [hq, this]

/-- when `accessor()` / `running_time()` of the system being added panics, no stage table and no
thread-local list changes; the id is consumed -/
theorem C18_callback_panic_frame (b : DispatcherBuilder) (name : String) (dep : List String) :
    (b.addCallbackPanics name dep).1.stagesBuilder = b.stagesBuilder ∧
    (b.addCallbackPanics name dep).1.threadLocal = b.threadLocal ∧
    (b.addCallbackPanics name dep).1.currentId = b.currentId + 1 := by
  rw [addCallbackPanics_eq b 0 name dep ⟨[], [], 0⟩]
  exact ⟨rfl, (add_frame b 0 name dep _).2, (add_frame b 0 name dep _).1⟩

/-- such a registration is rejected by the builder exactly when `add` would have rejected it, with
the same panic — otherwise it gets as far as the callback -/
theorem C18_callback_panic_same_rejections (b : DispatcherBuilder) (tag : SysTag) (name : String)
    (dep : List String) (d : Decl) (p : BuildPanic) :
    (b.addCallbackPanics name dep).2 = some p ↔ (b.add tag name dep d).2 = some p := by
  rw [addCallbackPanics_eq b tag name dep d]

end DispatcherBuilder

namespace Scenario
variable (sc : Scenario)

/-- **C18 (no capacity panic).** In the executed table of every registration sequence every group
holds between one and four systems — `ArrayVec<_, 5>::push` cannot overflow, however many systems
are funnelled into one group by their conflicts and running-time hints. -/
theorem C18_group_capacity (st : List (List SysTag)) (hst : st ∈ sc.final.b.stages)
    (g : List SysTag) (hg : g ∈ st) : 1 ≤ g.length ∧ g.length < maxSystemsPerGroup := by
  obtain ⟨zg, hfit, rfl⟩ := sc.fit_of_mem (fun _ => stages_eq_of_zips) hst hg
  exact hfit.size

/-- **C18 (no arithmetic overflow).** With running-time hints in 1..5 (the `RunningTime` enum)
every accumulated group time is at most 20, so the `u8` sum and the `i8` casts of
`improves_balance` are exact. -/
theorem C18_running_time_bound (htimes : ∀ s, (sc.D s).time ≤ 5)
    (st : List Nat) (hst : st ∈ sc.final.b.runningTime) (t : Nat) (ht : t ∈ st) : t ≤ 20 := by
  obtain ⟨zg, hfit, rfl⟩ := sc.fit_of_mem (fun _ => runningTime_eq_of_zips) hst ht
  exact fit_time_le hfit htimes

/-- **C18 (no index panic).** The target `insertion_target` returns always names an existing
stage (and group) — `self.ids[stage]`, `self.stages[stage].groups[group]` are in bounds. -/
theorem C18_target_in_bounds (dep : List Nat) (d : Decl) :
    match sc.final.b.insertionTarget (sortDedup d.reads) d.writes (sc.final.b.prepDep dep) d.time with
    | .stage s => s < sc.final.b.stages.length
    | .group s g => ∃ st, sc.final.b.stages[s]? = some st ∧ g < st.length
    | .newStage => True := by
  obtain ⟨z, hz⟩ := sc.good
  have hv := target_valid zJoinOk dedup z dep (sortDedup d.reads) d
  rw [target_sim hz.zips]
  generalize z.target zJoinOk dedup dep (sortDedup d.reads) d = tg at hv
  cases tg with
  | newStage => trivial
  | stage s =>
    obtain ⟨_, st, hst⟩ := hv
    exact (List.getElem?_eq_some_iff.mp (hz.getElem?_stages hst)).1
  | group s g =>
    obtain ⟨_, st, gk, hst, hgk⟩ := hv
    exact ⟨_, hz.getElem?_stages hst, (List.length_map _).symm ▸ (List.getElem?_eq_some_iff.mp hgk).1⟩

end Scenario

/-- **C18 (every builder state is covered).** Whatever sequence of `add` calls — accepted or
rejected — and barriers produced a `DispatcherBuilder`, its tables are those of a registration
`Scenario` up to an injective renumbering of ids and the caller's tagging; so the `Scenario`
theorems of C01–C04, C10, C18, C20 speak about it. -/
theorem C18_every_builder_is_a_scenario (bops : List BOp) :
    ∃ (sc : Scenario) (σ : Nat → Nat) (τ : Nat → SysTag), (∀ a b, σ a = σ b → a = b) ∧
      let b := (bops.foldl BOp.step {}).stagesBuilder
      b.ids = mapIds σ sc.final.b.ids ∧ b.stages = mapT τ sc.final.b.stages ∧
      b.reads = sc.final.b.reads ∧ b.writes = sc.final.b.writes ∧
      b.runningTime = sc.final.b.runningTime ∧ b.barrier = sc.final.b.barrier :=
  builder_is_scenario bops

/-- **C18 (no capacity panic, for every builder).** -/
theorem C18_group_capacity_any_builder (bops : List BOp) (st : List (List SysTag))
    (hst : st ∈ (bops.foldl BOp.step {}).stagesBuilder.stages) (g : List SysTag) (hg : g ∈ st) :
    1 ≤ g.length ∧ g.length < maxSystemsPerGroup := by
  obtain ⟨sc, σ, τ, _, _, hstages, _⟩ := builder_is_scenario bops
  rw [hstages, mapT_eq] at hst
  obtain ⟨st0, hst0, g0, hg0, rfl⟩ := Table.mem_proj hst hg
  rw [List.length_map]
  exact sc.C18_group_capacity st0 hst0 g0 hg0

end Shred

#print axioms Shred.DispatcherBuilder.add_ok
#print axioms Shred.DispatcherBuilder.resolve_error_iff
#print axioms Shred.DispatcherBuilder.add_panics_iff
#print axioms Shred.Scenario.C18_group_capacity
#print axioms Shred.Scenario.C18_running_time_bound
#print axioms Shred.Scenario.C18_target_in_bounds
#print axioms Shred.C18_every_builder_is_a_scenario
#print axioms Shred.C18_group_capacity_any_builder
#print axioms Shred.DispatcherBuilder.C18_queries_predict_add
#print axioms Shred.DispatcherBuilder.C18_has_system_after_add
#print axioms Shred.DispatcherBuilder.C18_callback_panic_frame
#print axioms Shred.DispatcherBuilder.C18_callback_panic_same_rejections
