import ShredModel.Lemmas.Scenario
import ShredModel.Lemmas.NestedTop
import ShredModel.Lemmas.Exec
import ShredModel.Lemmas.Add
/-!
# C02 — dependencies

Quantifiers: every registration sequence `ops` (any number of systems, any declarations, any
dependency lists over earlier systems, barriers anywhere), every list of thread-local systems,
and **every trace** of the resulting plan, i.e. every interleaving a thread pool of any size
can produce.
-/
namespace Shred
namespace Scenario
variable (sc : Scenario)

/-- **C02 (dependencies).** If `B` was registered with `A` in its dependency list, then in every
execution `A` has dropped its data before `B` begins to fetch. -/
theorem C02_dependencies (l : List (Ev SysTag)) (hl : Traces sc.plan l)
    (A B : SysTag) (hB : B < sc.final.n) (hA : A ∈ sc.Dep B)
    (l1 l2 : List (Ev SysTag)) (hsplit : l = l1 ++ Ev.F B :: l2) : Ev.D A ∈ l1 :=
  traces_before hl sc.plan_nodup A B (before_of_tOrdered (sc.ordered_of_dep hB hA) sc.tl) l1 l2 hsplit

/-- **C02 (transitively along dependency chains).** If `B` depends on `A` and `C` depends on `B`,
then `A` has finished before `C` begins to fetch — although `C` did not name `A`. -/
theorem C02_transitive (l : List (Ev SysTag)) (hl : Traces sc.plan l)
    (A B C : SysTag) (hB : B < sc.final.n) (hC : C < sc.final.n) (hAB : A ∈ sc.Dep B) (hBC : B ∈ sc.Dep C)
    (l1 l2 : List (Ev SysTag)) (hsplit : l = l1 ++ Ev.F C :: l2) : Ev.D A ∈ l1 :=
  precedes_trans hl sc.plan_nodup (sc.C02_dependencies l hl A B hB hAB) (sc.C02_dependencies l hl B C hC hBC) hsplit

end Scenario

/-- **C02 / C03 with batches, at any nesting depth**: layout order (which `C02_dependencies` and
`C03_barriers` establish for dependencies and barriers) is execution order for everything under
the two systems. -/
theorem C02_order_nested {D : SysTag → Decl} (L : Level D) (par : Bool) (pfx : Inst) (l : List (Ev Inst))
    (hl : Traces (L.task par pfx) l) {A B : SysTag} (hAB : TOrdered L.stages A B) {x y : Inst}
    (hx : x ∈ (leafOf L.bs pfx A).sys) (hy : y ∈ (leafOf L.bs pfx B).sys)
    (l1 l2 : List (Ev Inst)) (hsplit : l = l1 ++ Ev.F y :: l2) : Ev.D x ∈ l1 :=
  L.ordered hl hAB hx hy hsplit

/-- dependencies and barriers of a registration sequence order the tagged table the driver uses -/
theorem C02_deps_order_tagged (sc : Scenario) (τ : Nat → SysTag) (A B : Nat) (hB : B < sc.final.n)
    (hA : A ∈ sc.Dep B) : TOrdered (sc.taggedStages τ) (τ A) (τ B) := by
  rw [sc.taggedStages_eq]
  exact (sc.ordered_of_dep hB hA).mapT τ

open DispatcherBuilder

/-- **C02 (a name keeps meaning the system registered under it).** Whatever is registered later -
named, unnamed (whose printed placeholder `unnamed_system_<id>` is only a rendering, never a map
entry), rejected as a duplicate, or rejected for an unknown dependency - a name that resolves to an
id keeps resolving to that id: a dependency list always refers to the system that was registered
under the name. -/
theorem C02_names_never_repointed (b : DispatcherBuilder) (tag : SysTag) (name : String) (dep : List String)
    (d : Decl) (q : String) (id : SysId) (h : lookup b.map q = some id) :
    lookup (b.add tag name dep d).1.map q = some id := by
  rcases add_cases b tag name dep d with ⟨_, _, he⟩ | ⟨_, _, _, _, he⟩ | ⟨_, _, hfree, he⟩
  · -- rejected for an unknown dependency: only `currentId` moves
    rw [he]; exact h
  · -- rejected as a duplicate: likewise
    rw [he]; exact h
  · -- the registration goes through: the map is left alone, or a vacant name is put in front of it
    rw [he]
    dsimp only
    split
    · exact h
    · have hvac : lookup b.map name = none := hfree.resolve_left ‹_›
      have hq : (name == q) = false := Bool.eq_false_iff.mpr fun hnq => by
        rw [eq_of_beq hnq, h] at hvac; cases hvac
      rw [lookup_cons, hq]
      exact h

/-- the same over any further registrations: `regs` is a list of (tag, name, dependencies, declaration) -/
theorem C02_names_never_repointed_run (regs : List (SysTag × String × List String × Decl)) :
    ∀ (b : DispatcherBuilder) (q : String) (id : SysId), lookup b.map q = some id →
      lookup (regs.foldl (fun b r => (b.add r.1 r.2.1 r.2.2.1 r.2.2.2).1) b).map q = some id := by
  induction regs with
  | nil => intro b q id h; simpa using h
  | cons r rs ih =>
    intro b q id h
    simp only [List.foldl_cons]
    exact ih _ q id (C02_names_never_repointed b r.1 r.2.1 r.2.2.1 r.2.2.2 q id h)

/-- non-vacuity: after registering `a`, the name resolves; an unnamed registration and one under the
placeholder's spelling leave it alone -/
example : let b0 := (({} : DispatcherBuilder).add 0 "a" [] ⟨[], [], 1⟩).1
    DispatcherBuilder.lookup b0.map "a" = some 0 ∧
    DispatcherBuilder.lookup ((b0.add 1 "" [] ⟨[], [], 1⟩).1.add 2 "unnamed_system_1" [] ⟨[], [], 1⟩).1.map "a" = some 0 := by
  decide

end Shred

#print axioms Shred.C02_names_never_repointed
#print axioms Shred.C02_names_never_repointed_run
#print axioms Shred.Scenario.C02_dependencies
#print axioms Shred.C02_order_nested
#print axioms Shred.C02_deps_order_tagged
#print axioms Shred.Scenario.C02_transitive
