import ShredModel.Lemmas.Scenario
import ShredModel.Lemmas.Print
/-!
# C20 — the printed par/seq plan is total and matches the executed plan

`write_par_seq` walks the `ids` table and prints, for every stage, group and position, the
name registered for the id found there — or (repair D1 in /repo) the placeholder
`unnamed_system_<id>` when the system was registered with the empty name. In the model the
text is `render (printTree b)`: total by construction (no lookup can fail), so `C20_print_total`
is the statement that the *name choice* never fails; the harness compares the real text byte
for byte and checks that formatting does not panic.
-/
namespace Shred
namespace Scenario
variable (sc : Scenario)

/-- **C20 (lock-step).** The table that is printed is the table that is executed: at every
stage, group and position the printed id is the id of the system run there. -/
theorem C20_printed_is_executed : sc.final.b.stages = sc.final.b.ids :=
  let ⟨_, hz⟩ := sc.good; Shred.stages_eq_ids hz

/-- **C20 (every system exactly once).** Every registered system occurs exactly once in the
table that is printed. -/
theorem C20_each_once (x : Nat) (hx : x < sc.final.n) : sc.final.b.ids.flatten.flatten.count x = 1 := by
  rw [← sc.C20_printed_is_executed, sc.count_stages x, if_pos hx]

end Scenario

namespace DispatcherBuilder

/-- **C20 (the text is the rendering of the name tree of the `ids` table).** -/
theorem C20_text_structure (b : DispatcherBuilder) :
    b.writeParSeq = render (b.stagesBuilder.ids.map fun st => st.map fun g => g.map (printedName b.map)) := rfl

/-- **C20 (the name map stays well-formed under every registration, failed ones included).** -/
theorem C20_map_ok (b : DispatcherBuilder) (h : MapOK b) (tag : SysTag) (name : String) (dep : List String) (d : Decl) :
    MapOK (b.add tag name dep d).1 := by
  have hbump : ∀ sb tl, MapOK { currentId := b.currentId + 1, map := b.map, stagesBuilder := sb, threadLocal := tl } :=
    fun _ _ => { lt := fun p hp => Nat.lt_succ_of_lt (h.lt p hp), ids := h.ids, names := h.names }
  rcases add_cases b tag name dep d with ⟨_, _, he⟩ | ⟨_, _, _, _, he⟩ | ⟨ids, _, hfree, he⟩ <;> rw [he]
  · exact hbump _ _
  · exact hbump _ _
  · by_cases hn : name = ""
    · simp only [hn, if_true]; exact hbump _ _
    · simp only [hn, if_false]
      refine { lt := fun p hp => ?_, ids := List.nodup_cons.mpr ⟨fun hm => ?_, h.ids⟩,
               names := List.nodup_cons.mpr ⟨lookup_none_iff.mp (hfree.resolve_left hn), h.names⟩ }
      · rcases List.mem_cons.mp hp with rfl | hp
        · exact Nat.lt_succ_self _
        · exact Nat.lt_succ_of_lt (h.lt p hp)
      · -- the new id is not in the map: all ids there are below `currentId`
        obtain ⟨p, hp, he⟩ := List.mem_map.mp hm
        exact Nat.lt_irrefl _ (he ▸ h.lt p hp)

/-- **C20 (names).** A system registered under a name is printed under that name, sanitised;
a system without a name gets the placeholder carrying its id — the choice never fails. -/
theorem C20_print_total (b : DispatcherBuilder) (h : MapOK b) (id : SysId) :
    (∃ name, (name, id) ∈ b.map ∧ printedName b.map id = sanitise name) ∨
    ((∀ p, p ∈ b.map → p.2 ≠ id) ∧ printedName b.map id = sanitise s!"unnamed_system_{id}") := by
  by_cases hx : ∃ p, p ∈ b.map ∧ p.2 = id
  · obtain ⟨p, hp, rfl⟩ := hx
    exact Or.inl ⟨p.1, hp, printedName_named h.ids hp⟩
  · have : ∀ p, p ∈ b.map → p.2 ≠ id := fun p hp e => hx ⟨p, hp, e⟩
    exact Or.inr ⟨this, printedName_unnamed this⟩

/-- non-vacuity: one named and one unnamed system, side by side: the printed table holds both
ids, only the named one is in the map (so the second gets the placeholder) -/
example :
    let b := (({} : DispatcherBuilder).add 0 "a b" [] ⟨[], [], 3⟩).1.add 1 "" [] ⟨[], [], 3⟩ |>.1
    b.stagesBuilder.ids = [[[0], [1]]] ∧ b.map.map (·.2) = [0] ∧ b.currentId = 2 := by decide

end DispatcherBuilder
end Shred

#print axioms Shred.Scenario.C20_printed_is_executed
#print axioms Shred.Scenario.C20_each_once
#print axioms Shred.DispatcherBuilder.C20_text_structure
#print axioms Shred.DispatcherBuilder.C20_map_ok
#print axioms Shred.DispatcherBuilder.C20_print_total
