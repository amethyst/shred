import ShredModel.Lemmas.Pool
/-!
# C11 — side-by-side systems really run in parallel (the part a theorem can carry)

About the **pool model** of `Model/Pool.lean` (an assumption about rayon, see DESIGN.md §5 C11;
the tie to the real crate is the complete enumeration of stage widths × pool sizes × modes by
the `rendezvous` engine): with at least as many workers as the stage has groups, systems that
wait for all their siblings to be inside `run` never deadlock and do meet; with fewer workers
they do deadlock — so the hypothesis is exactly what is needed. Then: which pool every dispatcher
of a builder runs on (model of the pool slots of `builder.rs`), and the async dispatcher over
*sequences* of calls (model of `Data` in `async_dispatcher.rs`): the calling thread, never a pool
thread, waits for the previous dispatch, so every dispatch of every sequence has the whole pool.
-/
namespace Shred

/-- **C11 (progress).** With `n ≤ w` workers, every reachable state in which some system has
not finished has an enabled step: the dispatch cannot deadlock. -/
theorem C11_rendezvous_progress {w n : Nat} (hw : n ≤ w) {s : PoolSt} (h : PoolReach w n s)
    (hnd : s.done < n) : ∃ s', PoolStep n s s' := by
  obtain ⟨h1, h2, _⟩ := pool_inv h
  rw [poolStep_exists_iff, PoolSt.canStart_iff, PoolSt.canFinish_iff]
  rcases Nat.eq_zero_or_pos s.pending with hp | hp
  · -- every group has started: all `n` have entered, and one of them is still inside
    rw [hp, Nat.zero_add] at h2
    exact .inr ⟨h2, by omega⟩
  · -- a group is pending, and not all `w ≥ n` workers can be inside
    exact .inl ⟨by omega, hp⟩

/-- **C11 (every run is finite).** Each step decreases `2·pending + inside`. -/
theorem C11_steps_decrease {n : Nat} {s s' : PoolSt} (h : PoolStep n s s') :
    2 * s'.pending + s'.inside < 2 * s.pending + s.inside := h.decreases

/-- **C11 (they meet).** No system leaves `run` before all `n` are inside at the same time:
at the moment the last group has been started and nobody has left yet, all `n` are inside. -/
theorem C11_all_inside_together {w n : Nat} {s : PoolSt} (h : PoolReach w n s)
    (hp : s.pending = 0) (hd : s.done = 0) : s.inside = n := by
  have h2 := (pool_inv h).2.1
  rwa [hp, hd, Nat.zero_add, Nat.add_zero] at h2

/-- … and nobody can leave from any other kind of state -/
theorem C11_finish_needs_all {w n : Nat} {s : PoolSt} (h : PoolReach w n s)
    (hc : s.canFinish n = true) : s.pending = 0 := by
  have h2 := (pool_inv h).2.1
  rw [Nat.add_assoc, (PoolSt.canFinish_iff.1 hc).1] at h2
  exact Nat.add_right_cancel (h2.trans (Nat.zero_add n).symm)

/-- **C11 (the hypothesis is needed).** With fewer workers than groups there is a reachable
deadlock: all workers hold a waiting system, a group cannot start, nobody may leave. -/
theorem C11_rendezvous_needs_n {w n : Nat} (hw : w < n) :
    ∃ s, PoolReach w n s ∧ s.done < n ∧ ¬ ∃ s', PoolStep n s s' := by
  have hr := reach_starts w n w (Nat.le_refl _) (Nat.le_of_lt hw)
  rw [Nat.sub_self] at hr
  refine ⟨_, hr, Nat.zero_lt_of_lt hw, ?_⟩
  rw [poolStep_exists_iff, PoolSt.canStart_iff, PoolSt.canFinish_iff]
  exact fun h => h.elim (fun h => Nat.lt_irrefl 0 h.1) fun h => Nat.ne_of_lt hw h.1

/-- **C11 (the prediction the correspondence run compares with).** The run to quiescence ends
with all `n` systems having met and left exactly when there are at least as many idle workers as
groups; with fewer it ends in the deadlock. -/
theorem C11_poolCompletes_iff {w n : Nat} : poolCompletes w n = true ↔ n ≤ w := by
  obtain ⟨hr, hs, hf⟩ := PoolSt.run_spec (w := w) (n := n) (2 * n + 1) .init (Nat.le_succ _)
  obtain ⟨_, h2, h3⟩ := pool_inv hr
  rw [poolCompletes, beq_iff_eq]
  constructor
  · intro hd
    rcases Nat.eq_zero_or_pos n with h0 | h0
    · exact h0 ▸ Nat.zero_le w
    · exact (h3 (by rwa [hd])).2
  · intro hw
    -- quiescent, so by progress nobody is left
    refine Nat.le_antisymm (Nat.le_trans (Nat.le_add_left ..) (Nat.le_of_eq h2)) (Nat.le_of_not_lt fun hlt => ?_)
    have := poolStep_exists_iff.1 (C11_rendezvous_progress hw hr hlt)
    rw [hs, hf] at this
    exact this.elim Bool.noConfusion Bool.noConfusion

/-- With at least as many idle workers as groups, the run to quiescence ends with all `n` systems
having met and left. -/
theorem C11_poolCompletes_of_le {w n : Nat} (hw : n ≤ w) : poolCompletes w n = true :=
  C11_poolCompletes_iff.2 hw

/-- **C11 (a blocked outsider).** `busy` of the workers held by something else: the stage still
meets as long as the *idle* workers suffice. -/
theorem C11_busy_workers {w busy n : Nat} (h : n + busy ≤ w) : poolCompletesBusy w busy n = true :=
  C11_poolCompletes_of_le (Nat.le_sub_of_add_le h)

theorem slot_some (dflt : Nat) (b : PB) (x : Nat) : ∃ y, b.slot dflt (some x) = some y :=
  ⟨_, b.slot_some_eq dflt x⟩

/-- **C11 (default pool).** Without any `add_pool`, every dispatcher that `build` produces — the
top-level one, every batch, every nested batch — dispatches on a pool of rayon's default size,
whatever the widths of the stages of the dispatcher that happened to create the pool. -/
theorem C11_default_pool_size {dflt : Nat} {b : PB} (h : b.noPool = true) (ws : List Nat) :
    ∀ d ∈ b.build dflt ws, d.pool = dflt := by
  intro d hd
  rw [PB.build_eq, PB.lastPool_of_noPool h] at hd
  rcases List.mem_cons.1 hd with rfl | hd
  · rfl
  · exact batches_noPool h d hd

/-- **C11 (default pool, all dispatchers sharing it).** … hence every stage of every one of
them, of width up to the default size, can rendezvous: the pool is not sized after the widest
stage of whichever dispatcher is built first. -/
theorem C11_default_pool_rendezvous {dflt : Nat} {b : PB} (h : b.noPool = true) (ws : List Nat)
    {d : Disp} (hd : d ∈ b.build dflt ws) {n : Nat} (_hn : n ∈ d.widths) (hle : n ≤ dflt) :
    poolCompletes d.pool n = true := by
  rw [C11_default_pool_size h ws d hd]
  exact C11_poolCompletes_of_le hle

example : (PB.batch 1 [1] .nil (.batch 2 [4] .nil .nil)).noPool = true ∧
    (PB.batch 1 [1] .nil (.batch 2 [4] .nil .nil)).build 8 [4, 1] =
      [⟨none, 8, [4, 1]⟩, ⟨some 1, 8, [1]⟩, ⟨some 2, 8, [4]⟩] := by decide +kernel

/-- **C11 (user-supplied pool).** Once `add_pool` / `with_pool` was called on the builder —
before or after the batches were added — the top-level dispatcher and every batch registered on
that builder dispatch on the pool supplied last; what the batch's own builder was given is
irrelevant for the batch's own stages. -/
theorem C11_user_pool {dflt p : Nat} {b : PB} (h : b.lastPool = some p) (ws : List Nat) :
    (b.build dflt ws).head? = some ⟨none, p, ws⟩ ∧
    ∀ t wt, (t, wt) ∈ b.direct → ⟨some t, p, wt⟩ ∈ b.build dflt ws := by
  rw [PB.build_eq, h]
  exact ⟨rfl, fun t wt ht => List.mem_cons_of_mem _ (direct_mem_batches ht)⟩

/-- … so its stages of width up to the supplied pool's size rendezvous -/
theorem C11_user_pool_rendezvous {dflt p : Nat} {b : PB} (h : b.lastPool = some p) (ws : List Nat)
    {t : Nat} {wt : List Nat} (ht : (t, wt) ∈ b.direct) {n : Nat} (_hn : n ∈ wt) (hle : n ≤ p) :
    ∃ d ∈ b.build dflt ws, d.tag = some t ∧ d.widths = wt ∧ poolCompletes d.pool n = true :=
  ⟨_, (C11_user_pool h ws).2 t wt ht, rfl, rfl, C11_poolCompletes_of_le hle⟩

example : (PB.batch 1 [3] (.pool 1 .nil) (.pool 4 .nil)).lastPool = some 4 ∧
    (PB.batch 1 [3] (.pool 1 .nil) (.pool 4 .nil)).build 16 [4] = [⟨none, 4, [4]⟩, ⟨some 1, 4, [3]⟩] := by
  decide +kernel

/-- **What the code does for a batch inside a batch (depth ≥ 2)** — recorded because it limits
the clause "for a user-supplied pool … inside batches": the inner-most dispatcher was built on
the slot of the middle builder *before* `add_batch` pointed that builder at the top-level slot,
so it runs on a default pool (here 2 threads) although the user supplied 8: its stage of four
groups cannot rendezvous, while the same plan directly under the top level can. -/
theorem C11_nested_batch_pool_witness :
    (PB.pool 8 (.batch 1 [1] (.batch 2 [4] .nil .nil) .nil)).build 2 [1] =
      [⟨none, 8, [1]⟩, ⟨some 1, 8, [1]⟩, ⟨some 2, 2, [4]⟩] ∧
    (⟨some 2, 2, [4]⟩ : Disp).completes = false ∧
    ((PB.pool 8 (.batch 2 [4] .nil .nil)).build 2 [1]).all Disp.completes = true := by decide +kernel

/-- **C11 (async dispatcher, the caller does the waiting).** In every state reachable by any
sequence of `dispatch` / `wait` / `wait_without_tl` / `world` / `running` calls — whatever
`running` observes — there is at most one unfinished job, the one `data` is waiting for: a second
`dispatch` is not spawned before the first has handed the systems back. -/
theorem C11_async_one_job (calls : List ACall) :
    (ASt.init.run calls).flying = if (ASt.init.run calls).rx then 1 else 0 :=
  (ASt.run_spec rfl calls).1

/-- **C11 (async dispatcher, the whole pool for every dispatch).** However many dispatches were
issued before it, with or without `wait` in between, no dispatch ever shares the pool with another
unfinished job of the dispatcher: the workers available to its stages are all those of the pool. -/
theorem C11_async_whole_pool (calls : List ACall) : ∀ b ∈ asyncOthers calls, b = 0 := by
  rw [asyncOthers_eq]
  exact fun b hb => (List.mem_replicate.1 hb).2

/-- every `dispatch()` of the sequence is accounted for -/
theorem C11_async_every_dispatch (calls : List ACall) : (asyncOthers calls).length = nDispatch calls := by
  rw [asyncOthers_eq, List.length_replicate]

/-- **C11 (async dispatcher, sequences of calls).** On a pool of `p` threads, every dispatch of
every call sequence — back to back or with waits in between — lets a stage of `n ≤ p` groups
rendezvous; and a stage of more groups than threads never does: the prediction for a sequence is
the prediction for a single dispatch, once per `dispatch()`. -/
theorem C11_async_sequence (p n : Nat) (calls : List ACall) :
    asyncVerdicts p n calls = List.replicate (nDispatch calls) (decide (n ≤ p)) := by
  rw [asyncVerdicts, asyncOthers_eq, List.map_replicate, poolCompletesBusy, Nat.sub_zero,
    Bool.eq_iff_iff.2 (C11_poolCompletes_iff.trans decide_eq_true_iff.symm)]

theorem C11_async_sequence_rendezvous {p n : Nat} (hle : n ≤ p) (calls : List ACall) :
    ∀ v ∈ asyncVerdicts p n calls, v = true := by
  rw [C11_async_sequence, decide_eq_true hle]
  exact fun v hv => (List.mem_replicate.1 hv).2

/-- three dispatches back to back, `running` in between, then `wait`: three entries, all `0`;
a stage of 4 on a pool of 4 meets in each of them, a stage of 5 in none -/
example : asyncOthers [.dispatch, .dispatch, .running false, .dispatch, .wait] = [0, 0, 0] ∧
    asyncVerdicts 4 4 [.dispatch, .dispatch, .running false, .dispatch, .wait] = [true, true, true] ∧
    asyncVerdicts 4 5 [.dispatch, .running true, .dispatch, .world] = [false, false] := by decide +kernel

/-- the bookkeeping is not vacuous: were a job spawned while another is unfinished (no
`Data::inner` first), both would be recorded as sharing the pool -/
example : (ASt.init.inner.spawn.spawn).others = [1, 1] ∧
    (ASt.init.inner.spawn.spawn.spawn).others = [2, 2, 2] := by decide +kernel

/-- the executable prediction used by the correspondence run, on a few sizes (these are tests) -/
example : poolCompletes 16 16 = true ∧ poolCompletes 19 16 = true ∧ poolCompletes 3 4 = false ∧
    poolCompletes 2 2 = true := by decide +kernel

end Shred

#print axioms Shred.pool_inv
#print axioms Shred.C11_rendezvous_progress
#print axioms Shred.C11_steps_decrease
#print axioms Shred.C11_all_inside_together
#print axioms Shred.C11_finish_needs_all
#print axioms Shred.reach_starts
#print axioms Shred.C11_rendezvous_needs_n
#print axioms Shred.C11_poolCompletes_of_le
#print axioms Shred.C11_poolCompletes_iff
#print axioms Shred.C11_busy_workers
#print axioms Shred.slot_some
#print axioms Shred.batches_noPool
#print axioms Shred.C11_default_pool_size
#print axioms Shred.C11_default_pool_rendezvous
#print axioms Shred.direct_mem_batches
#print axioms Shred.C11_user_pool
#print axioms Shred.C11_user_pool_rendezvous
#print axioms Shred.C11_nested_batch_pool_witness
#print axioms Shred.bumpNewest_zero
#print axioms Shred.bumpNewest_length
#print axioms Shred.C11_async_one_job
#print axioms Shred.C11_async_whole_pool
#print axioms Shred.C11_async_every_dispatch
#print axioms Shred.C11_async_sequence
#print axioms Shred.C11_async_sequence_rendezvous
