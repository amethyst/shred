import ShredModel.Lemmas.Invariance
import ShredModel.Lemmas.Relabel
import ShredModel.Lemmas.Add
/-!
# C19 — the plan is a deterministic function of the registration sequence

Determinism is definitional for the model (the layout *is* a function of the registration
list); what the theorems add is that nothing the code leaves unspecified can leak into it:

* `C19_layout_invariant`: an injective relabelling `ρ` of resources (other Rust types, other
  dynamic ids — hence also `TypeId`'s compiler-chosen order, which only enters through `sort`),
  any permutation or duplication of each system's declared lists: the executed table and the
  printed table of the **five-table builder of the code** are identical, for every registration
  sequence;
* `C19_names_irrelevant`: an injective renaming of system names, applied consistently to the
  dependency lists, resolves every dependency list to the same ids and rejects the same
  registrations — the name map is only ever looked up;
* `C19_ids_and_tags_irrelevant`, `C19_rejected_add_frame`: the numeric values of the ids (a
  counter that rejected calls advance too) and the tags the caller attaches to the systems only
  relabel the tables.
-/
namespace Shred

/-- **C19 (one registration).** -/
theorem C19_insert_invariant {ρ : ResId → ResId} (hinj : ∀ a b, ρ a = ρ b → a = b) {z z' : ZB} (h : ZRel ρ z z')
    (norm norm' : List ResId → List ResId)
    (hnorm : ∀ l x, x ∈ norm l ↔ x ∈ l) (hnorm' : ∀ l x, x ∈ norm' l ↔ x ∈ l)
    (dedupN : List Nat → List Nat) (dep : List Nat) (id sys : Nat) {d d' : Decl}
    (hr : SetImg ρ d.reads d'.reads) (hw : SetImg ρ d.writes d'.writes) (ht : d'.time = d.time) :
    ZRel ρ (z.insert zJoinOk norm dedupN dep id sys d) (z'.insert zJoinOk norm' dedupN dep id sys d') :=
  insert_rel hinj h norm norm' hnorm hnorm' dedupN dep id sys hr hw ht

/-- **C19 (whole sequences, the code's own tables).** -/
theorem C19_layout_invariant {ρ : ResId → ResId} (hinj : ∀ a b, ρ a = ρ b → a = b)
    {ops ops' : List SOp} (h : OpsRel ρ ops ops') :
    (runOps ops').1.stages = (runOps ops).1.stages ∧ (runOps ops').1.ids = (runOps ops).1.ids ∧
    (runOps ops').1.barrier = (runOps ops).1.barrier := by
  obtain ⟨y, y', m, hy, hy', hr⟩ := opsRel_foldl hinj h {} {} 0 (zrel_init ρ)
  have e : (runOps ops).1 = unzip y := congrArg Prod.fst hy
  have e' : (runOps ops').1 = unzip y' := congrArg Prod.fst hy'
  rw [e, e']
  exact ⟨hr.proj_eq fun _ _ hg => hg.sys.symm, hr.proj_eq fun _ _ hg => hg.ids.symm, hr.barrier⟩

/-- non-vacuity: swapping two resources and reversing a read list is such a relabelling -/
example : OpsRel (fun r => if r = ⟨0, 0⟩ then ⟨1, 7⟩ else if r = ⟨1, 7⟩ then ⟨0, 0⟩ else r)
    [.insert [] ⟨[⟨0, 0⟩, ⟨2, 0⟩], [⟨1, 7⟩], 3⟩, .barrier]
    [.insert [] ⟨[⟨2, 0⟩, ⟨1, 7⟩, ⟨2, 0⟩], [⟨0, 0⟩], 3⟩, .barrier] := by
  have img : ∀ {ρ : ResId → ResId} {l l' : List ResId}, (∀ y ∈ l, ρ y ∈ l') → (∀ x ∈ l', ∃ y ∈ l, ρ y = x) →
      SetImg ρ l l' :=
    fun h h' x => ⟨h' x, fun ⟨y, hy, e⟩ => e ▸ h y hy⟩
  exact .insert (img (by decide +kernel) (by decide +kernel)) (img (by decide +kernel) (by decide +kernel)) rfl (.barrier .nil)

namespace DispatcherBuilder

/-- **C19 (names).** Under an injective renaming of names the dependency list resolves to the
same ids, or fails at the same (renamed) name. -/
theorem C19_names_irrelevant (f : String → String) (hf : ∀ a b, f a = f b → a = b)
    (m : List (String × SysId)) (deps : List String) :
    resolve (m.map fun p => (f p.1, p.2)) (deps.map f) =
      match resolve m deps with
      | .ok ids => .ok ids
      | .error x => .error (f x) := by
  rw [resolve_eq, resolve_eq, List.find?_map, List.filterMap_map]
  simp only [Function.comp_def, lookup_rename f hf]
  cases deps.find? fun x => (lookup m x).isNone <;> rfl

end DispatcherBuilder

/-- **C19 (the numeric values of system ids and the tags are irrelevant).** `DispatcherBuilder::add`
numbers systems with a counter that also advances on rejected registrations, and the harness tags
systems as it likes: for any injective numbering `σ` and any tagging `τ` the five tables are those of
the consecutive-id builder, with the `ids` table relabelled and the executed table re-tagged —
for every registration sequence. -/
theorem C19_ids_and_tags_irrelevant (σ : Nat → Nat) (hσ : ∀ a b, σ a = σ b → a = b) (τ : Nat → SysTag)
    (ops : List SOp) :
    let b := (runOps ops).1
    let b' := (ops.foldl (SOp.stepI σ τ) ({}, 0)).1
    b'.ids = mapIds σ b.ids ∧ b'.stages = mapT τ b.stages ∧ b'.reads = b.reads ∧ b'.writes = b.writes ∧
      b'.runningTime = b.runningTime ∧ b'.barrier = b.barrier :=
  StagesBuilder.eq_relabel_iff.mp (congrArg Prod.fst (runOpsI_eq hσ τ ops))

/-- **C19 (a rejected registration leaves nothing behind but a used-up id).** When `add` panics -
unknown dependency or taken name - the name map, the five stage tables and the thread-local list are
what they were; only the id counter has advanced. Together with `C19_ids_and_tags_irrelevant` (the
numeric values of ids do not matter): the accepted registrations are laid out the same with and
without the rejected calls in between (what the invariance engine's "twin without the rejected calls"
checks on the real builder). -/
theorem C19_rejected_add_frame (b : DispatcherBuilder) (tag : SysTag) (name : String) (dep : List String)
    (d : Decl) (h : (b.add tag name dep d).2 ≠ none) :
    (b.add tag name dep d).1 = { b with currentId := b.currentId + 1 } := by
  rcases DispatcherBuilder.add_cases b tag name dep d with ⟨_, _, he⟩ | ⟨_, _, _, _, he⟩ | ⟨_, _, _, he⟩
  · rw [he]
  · rw [he]
  · rw [he] at h; exact absurd rfl h

/-- non-vacuity: registering `a` twice - the second call is rejected and only uses up an id -/
example : let b0 := (({} : DispatcherBuilder).add 0 "a" [] ⟨[], [], 1⟩).1
    (b0.add 1 "a" [] ⟨[], [], 1⟩).2 ≠ none ∧ (b0.add 1 "a" [] ⟨[], [], 1⟩).1.currentId = 2 ∧
      (b0.add 1 "a" [] ⟨[], [], 1⟩).1.map = b0.map := by
  decide +kernel

end Shred

#print axioms Shred.C19_rejected_add_frame
#print axioms Shred.C19_insert_invariant
#print axioms Shred.C19_layout_invariant
#print axioms Shred.DispatcherBuilder.lookup_rename
#print axioms Shred.DispatcherBuilder.C19_names_irrelevant
#print axioms Shred.C19_ids_and_tags_irrelevant
