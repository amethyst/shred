import ShredModel.Lemmas.Scenario
import ShredModel.Lemmas.Examples
import ShredModel.Lemmas.TaskN
import ShredModel.Lemmas.NestedTop
import ShredModel.Lemmas.Exec
import ShredModel.Lemmas.Effect
/-!
# C01 — isolation: conflicting systems never run at the same time

Quantifiers: every registration sequence `ops` (any number of systems, any declarations, any
dependency lists over earlier systems, barriers anywhere), every list of thread-local systems,
and **every trace** of the resulting plan, i.e. every interleaving a thread pool of any size
can produce.
-/
namespace Shred
namespace Scenario
variable (sc : Scenario)

/-- **C01 (isolation).** At every moment of every execution, two different systems that are
both between fetching and dropping their data have non-conflicting declared access. -/
theorem C01_isolation (l : List (Ev SysTag)) (hl : Traces sc.plan l)
    (p : List (Ev SysTag)) (hp : p <+: l) (x y : SysTag) (hxy : x ≠ y)
    (hx : OpenIn x p) (hy : OpenIn y p) : ¬ conflictsD (sc.D x) (sc.D y) :=
  traces_isolated_of_noScope (compatD_symm sc.D) hl sc.wf_plan (noScope_dispatchTask _ _) sc.plan_nodup hp hxy hx hy

omit sc in
/-- the systems inside their window after the events `p` -/
def openAfter (p : List (Ev SysTag)) : List SysTag :=
  (p.filterMap fun e => match e with | .F y => some y | .D _ => none).filter fun y => Ev.D y ∉ p

/-- **C01 ("consequently").** When a system begins to fetch, no sibling inside its window holds a
guard that is incompatible with what the system borrows (`fetchedReads` shared, `fetchedWrites`
exclusively — a subset of what it declared): nobody else holds any guard on what it writes, nobody
else holds an exclusive guard on what it reads. By `C08.outcome_spec` (a fetch panics iff an
incompatible guard is alive) a system that fetches only what it declared therefore never sees a
borrow-conflict panic caused by a sibling — in every trace, i.e. whatever the pool size or timing. -/
theorem C01_no_sibling_borrow_conflict (l : List (Ev SysTag)) (hl : Traces sc.plan l)
    (p l2 : List (Ev SysTag)) (x : SysTag) (hsplit : l = p ++ Ev.F x :: l2)
    (y : SysTag) (hy : y ∈ openAfter p) (hyx : y ≠ x) (r : ResId) :
    (r ∈ fetchedWrites (sc.D x) → r ∉ fetchedWrites (sc.D y) ∧ r ∉ fetchedReads (sc.D y)) ∧
    (r ∈ fetchedReads (sc.D x) → r ∉ fetchedWrites (sc.D y)) := by
  obtain ⟨hFy, hDy⟩ : OpenIn y p := by
    simp only [openAfter, List.mem_filter, List.mem_filterMap, decide_eq_true_eq] at hy
    obtain ⟨⟨e, he, hey⟩, hDy⟩ := hy
    cases e with
    | F y' => exact ⟨by simp at hey; exact hey ▸ he, hDy⟩
    | D y' => simp at hey
  have hDx : Ev.D x ∉ p := traces_no_D_before_F hl sc.plan_nodup hsplit
  -- both are inside their window right after `x` has begun to fetch
  have hno := sc.C01_isolation l hl (p ++ [Ev.F x]) ⟨l2, by rw [hsplit]; simp⟩ x y (Ne.symm hyx)
    ⟨by simp, by simp [hDx]⟩ ⟨List.mem_append_left _ hFy, by simp [hDy]⟩
  exact fetched_of_not_conflictsD hno r

end Scenario

/-- **C01 with batches, at any nesting depth** (`Level`: see Lemmas/Nested.lean): two distinct
instances inside their windows at the same time are a batch and something inside it, or do not
conflict. -/
theorem C01_isolation_nested {D : SysTag → Decl} (L : Level D) (par : Bool) (pfx : Inst) (l : List (Ev Inst))
    (hl : Traces (L.task par pfx) l) (p : List (Ev Inst)) (hp : p <+: l) (x y : Inst) (hxy : x ≠ y)
    (hx : OpenIn x p) (hy : OpenIn y p) :
    Anc (L.task par pfx) x y ∨ Anc (L.task par pfx) y x ∨ ¬ conflictsD (D (lastTag x)) (D (lastTag y)) :=
  L.isolated hl hp hxy hx hy

/-- non-vacuity: a concrete registration sequence (dependency, barrier, thread-local system) with
a trace, and a concrete dispatcher with a batch (two inner stages, dispatched twice) with a trace -/
example : (∃ l, Traces exScenario.plan l) ∧ (∃ l, Traces (exLevel.task true []) l) :=
  ⟨⟨_, traces_seqTrace _⟩, ⟨_, traces_seqTrace _⟩⟩
end Shred

#print axioms Shred.Scenario.C01_isolation
#print axioms Shred.C01_isolation_nested
#print axioms Shred.Scenario.C01_no_sibling_borrow_conflict
