import ShredModel.Lemmas.ParSeqBuild
/-!
# C16 — Par/Seq trees: structure is honoured, conflicts are rejected in debug builds

Quantifiers: **every** tree `t : PS` (any depth, any fan-out, `par` and `seq` nested in any way,
`Nil` anywhere), every declaration `decl` of the leaves, and **every trace** of `toTask t`, i.e.
every interleaving a pool of any size can produce (`Traces` of a `par` = all shuffles), which is
also why it does not matter whether `dispatch` is called from inside or outside the pool. Leaf
systems are told apart by their tag, so the trace theorems assume the tags pairwise distinct
(`t.leaves.Nodup`; the harness numbers its leaves 0, 1, ..).

The model functions are the ones the driver executes (`Model/ParSeq.lean`).
-/
namespace Shred
namespace PS

/-- the tree used by the non-vacuity examples: `seq![par![0, 1], 2]` as the macros nest it -/
def ex : PS := seqOf (.par (.par (.leaf 0) (.leaf 1)) .nil) [.leaf 2]
def exDecl : Nat → Decl
  | 0 => ⟨[⟨0, 0⟩], [⟨1, 0⟩], 1⟩
  | 1 => ⟨[⟨0, 0⟩], [⟨2, 0⟩], 1⟩
  | _ => ⟨[⟨2, 0⟩], [⟨0, 0⟩], 1⟩

/-- **C16 (exactly once).** In every trace of the tree every leaf fetches once and drops once,
and every event belongs to a leaf of the tree. -/
theorem run_once (t : PS) (hnd : t.leaves.Nodup) (l : List (Ev Nat)) (hl : Traces (toTask t) l) :
    (∀ x, x ∈ t.leaves → l.count (Ev.F x) = 1 ∧ l.count (Ev.D x) = 1)
      ∧ ∀ e, e ∈ l → e.sys ∈ t.leaves := by
  rw [← sys_toTask] at hnd ⊢
  exact ⟨traces_once hl hnd, traces_ev_sys hl⟩

example : ex.leaves.Nodup := by decide
/-- an overlapping trace of the example tree (0 and 1 open together, 2 after both) -/
example : Traces (toTask ex) [.F 0, .F 1, .D 0, .D 1, .F 2, .D 2] := by
  have h01 : Traces (toTask (.par (.par (.leaf 0) (.leaf 1)) .nil)) [.F 0, .F 1, .D 0, .D 1] :=
    .par (.par (.leaf 0) (.leaf 1) (.left (.right (.left (.right .nil))))) .nil (.left (.left (.left (.left .nil))))
  exact Traces.seq (Traces.seq h01 (.leaf 2)) .nil

/-- **C16 (seq order).** For `Seq { head: a, tail: b }`: whenever a leaf of `b` starts fetching,
every leaf of `a` has already dropped its data — in every trace. -/
theorem seq_order (a b : PS) (hnd : (PS.seq a b).leaves.Nodup) (l : List (Ev Nat))
    (hl : Traces (toTask (.seq a b)) l) (x y : Nat) (hx : x ∈ a.leaves) (hy : y ∈ b.leaves)
    (l1 l2 : List (Ev Nat)) (h : l = l1 ++ Ev.F y :: l2) : Ev.D x ∈ l1 :=
  traces_before hl (sys_toTask (.seq a b) ▸ hnd) x y (before_of_sub .refl hx hy) l1 l2 h

/-- the same for a `Seq` node at any position of any tree -/
theorem seq_order_nested (t a b : PS) (hsub : Sub (.seq a b) t) (hnd : t.leaves.Nodup)
    (l : List (Ev Nat)) (hl : Traces (toTask t) l) (x y : Nat) (hx : x ∈ a.leaves) (hy : y ∈ b.leaves)
    (l1 l2 : List (Ev Nat)) (h : l = l1 ++ Ev.F y :: l2) : Ev.D x ∈ l1 :=
  traces_before hl (sys_toTask t ▸ hnd) x y (before_of_sub hsub hx hy) l1 l2 h

/-- the same for the children of `seq![c0, c1, ..]` (`Seq::new(c0).with(c1)..`): child `a` listed
before child `b`, at any position of any tree -/
theorem seqOf_order (t c0 : PS) (cs p mid q : List PS) (a b : PS) (hsub : Sub (seqOf c0 cs) t)
    (hcs : c0 :: cs = p ++ a :: mid ++ b :: q) (hnd : t.leaves.Nodup)
    (l : List (Ev Nat)) (hl : Traces (toTask t) l) (x y : Nat) (hx : x ∈ a.leaves) (hy : y ∈ b.leaves)
    (l1 l2 : List (Ev Nat)) (h : l = l1 ++ Ev.F y :: l2) : Ev.D x ∈ l1 :=
  traces_before hl (sys_toTask t ▸ hnd) x y
    (hsub.before (pairwise_split (pairwise_before_seqOf c0 cs) hcs a (by simp) x hx y hy)) l1 l2 h

example : Sub (.seq (.par (.par (.leaf 0) (.leaf 1)) .nil) (.leaf 2)) ex := .seqL .refl

/-- **C16 (par may overlap).** `Par { head: a, tail: b }` with a leaf on either side has a
trace in which a leaf of `a` and a leaf of `b` are inside their fetch–drop window at once. -/
theorem par_may_overlap (a b : PS) (ha : a.leaves ≠ []) (hb : b.leaves ≠ []) :
    ∃ l, Traces (toTask (.par a b)) l ∧
      ∃ x, x ∈ a.leaves ∧ ∃ y, y ∈ b.leaves ∧ ∃ p, p <+: l ∧ OpenIn x p ∧ OpenIn y p := by
  obtain ⟨x, xs, hxa⟩ := List.exists_cons_of_ne_nil ha
  obtain ⟨y, ys, hyb⟩ := List.exists_cons_of_ne_nil hb
  obtain ⟨l, hl⟩ := par_heads_open hxa hyb
  -- after the prefix `[F x, F y]` both are open
  refine ⟨_, hl, x, hxa ▸ List.mem_cons_self, y, hyb ▸ List.mem_cons_self, [Ev.F x, Ev.F y], ⟨l, rfl⟩, ?_, ?_⟩
  · exact ⟨List.mem_cons_self, by simp⟩
  · exact ⟨List.mem_cons_of_mem _ List.mem_cons_self, by simp⟩

/-- and both orders of the two sides are possible: neither child is forced to go first -/
theorem par_either_first (a b : PS) (la lb : List (Ev Nat)) (ha : Traces (toTask a) la)
    (hb : Traces (toTask b) lb) :
    Traces (toTask (.par a b)) (la ++ lb) ∧ Traces (toTask (.par a b)) (lb ++ la) :=
  ⟨.par ha hb (shuffle_append la lb), .par ha hb (shuffle_append lb la).symm⟩

/-- **C16 (reads = union of the leaves').** What a node reports is exactly the concatenation
of its leaves' declared reads, leaves taken head first; in particular (second part) a resource
is reported iff some leaf declares it. -/
theorem reads_union (decl : Nat → Decl) (t : PS) :
    reads decl t = t.leaves.flatMap (fun x => (decl x).reads)
      ∧ ∀ r, r ∈ reads decl t ↔ ∃ x, x ∈ t.leaves ∧ r ∈ (decl x).reads :=
  ⟨reads_eq decl t, mem_reads decl t⟩

theorem writes_union (decl : Nat → Decl) (t : PS) :
    writes decl t = t.leaves.flatMap (fun x => (decl x).writes)
      ∧ ∀ r, r ∈ writes decl t ↔ ∃ x, x ∈ t.leaves ∧ r ∈ (decl x).writes :=
  ⟨writes_eq decl t, mem_writes decl t⟩

/-- the vector handed to `reads` / `writes` is only ever extended -/
theorem reads_extends (decl : Nat → Decl) (t : PS) (acc : List ResId) :
    readsAcc decl t acc = acc ++ reads decl t ∧ writesAcc decl t acc = acc ++ writes decl t := by
  rw [readsAcc_eq, writesAcc_eq, reads_eq, writes_eq]
  exact ⟨rfl, rfl⟩

/-- **C16 (setup reaches every leaf).** `setup` calls the hook of every leaf exactly once, in
leaf order. -/
theorem setup_reaches (t : PS) : setupOrder t = t.leaves :=
  (setupAcc_eq t []).trans (List.nil_append _)

/-! The `decl` of the theorems above is, for the real crate, `declOf spec`: what `self.accessor()`
of the leaf system returns — the accessor the system hands out when it overrides
`System::accessor`, and only otherwise the default of its accessor type (`try_new()`; that is
the `StaticAccessor` of static system data). -/

/-- leaves used by the examples: 0 dynamic without default, 1 dynamic whose accessor type has
an (empty) default, 2 static data (`Read<A>`-like: nothing overridden) -/
def exSpec : Nat → LeafSpec
  | 0 => ⟨none, some ⟨[⟨0, 0⟩], [⟨1, 0⟩], 0⟩, [⟨0, 0⟩, ⟨1, 0⟩]⟩
  | 1 => ⟨some ⟨[], [], 0⟩, some ⟨[⟨0, 0⟩], [⟨1, 0⟩], 0⟩, [⟨0, 0⟩, ⟨1, 0⟩]⟩
  | _ => ⟨some ⟨[⟨2, 0⟩], [], 0⟩, none, [⟨2, 0⟩]⟩

/-- **C16 (a leaf reports its own accessor).** A leaf that overrides `System::accessor` reports
exactly that accessor's reads and writes — whatever `try_new()` of its accessor type would
return (nothing, an empty default, anything else). -/
theorem leaf_reports_own_accessor (spec : Nat → LeafSpec) (s : Nat) (d : Decl)
    (h : (spec s).own = some d) :
    reads (declOf spec) (.leaf s) = d.reads ∧ writes (declOf spec) (.leaf s) = d.writes := by
  simp [reads, writes, readsAcc, writesAcc, declOf_own h]

/-- a leaf that does not override it reports the default accessor (static system data) -/
theorem leaf_reports_default_accessor (spec : Nat → LeafSpec) (s : Nat) (d : Decl)
    (ho : (spec s).own = none) (h : (spec s).tryNew = some d) :
    reads (declOf spec) (.leaf s) = d.reads ∧ writes (declOf spec) (.leaf s) = d.writes := by
  simp [reads, writes, readsAcc, writesAcc, declOf_default ho h]

/-- the leaf with an empty default still reports what it was configured with; the static leaf
reports its type's list -/
example : reads (declOf exSpec) (.leaf 1) = [⟨0, 0⟩] ∧ writes (declOf exSpec) (.leaf 1) = [⟨1, 0⟩] :=
  leaf_reports_own_accessor exSpec 1 _ rfl
example : reads (declOf exSpec) (.leaf 2) = [⟨2, 0⟩] := (leaf_reports_default_accessor exSpec 2 _ rfl rfl).1

/-- **C16 (reads = union of the leaves' own accessors).** For every node of every tree whose
leaves override `System::accessor` (`own x` is what leaf `x` hands out): the node reports the
concatenation of those accessors' lists, defaults of the accessor types play no role. -/
theorem node_reports_own_accessors (spec : Nat → LeafSpec) (t : PS) (own : Nat → Decl)
    (h : ∀ x, x ∈ t.leaves → (spec x).own = some (own x)) :
    reads (declOf spec) t = t.leaves.flatMap (fun x => (own x).reads)
      ∧ writes (declOf spec) t = t.leaves.flatMap (fun x => (own x).writes) := by
  rw [← reads_eq, ← writes_eq]
  exact reads_writes_congr fun x hx => declOf_own (h x hx)

/-- … and so the debug check of `Par::with` fires exactly on a conflict between those own
accessors: two leaves whose accessor type defaults to "nothing" are still told apart -/
theorem with_check_own_accessors (spec : Nat → LeafSpec) (h sys : PS) (own : Nat → Decl)
    (hh : ∀ x, x ∈ h.leaves → (spec x).own = some (own x))
    (hs : ∀ x, x ∈ sys.leaves → (spec x).own = some (own x)) :
    withCheck (declOf spec) h sys = false ↔
      ∃ x, x ∈ h.leaves ∧ ∃ y, y ∈ sys.leaves ∧ conflictsD (own x) (own y) := by
  rw [withCheck_congr (fun x hx => declOf_own (hh x hx)) (fun x hx => declOf_own (hs x hx))]
  exact withCheck_false_iff

/-- both write 1.0: rejected although leaf 1's accessor type has an empty default -/
example : withCheck (declOf exSpec) (.leaf 0) (.leaf 1) = false := by decide
example : withCheck (declOf exSpec) (.leaf 1) (.leaf 2) = true := by decide

/-- **C16 (every setup call reaches every leaf).** Whatever sequence of `setup` calls is made
on one `ParSeq` — through `ParSeq::setup` or `RunNow::setup`, on whatever worlds, in whatever
order — every single call runs the setup of every leaf exactly once, in leaf order, and the
world it was handed afterwards holds exactly what it held before plus what the leaves create
(nothing removed, nothing reordered). -/
theorem every_setup_reaches (d : Disp) (creates : Nat → List ResId)
    (calls : List (Via × List ResId)) :
    (d.setups creates calls).length = calls.length ∧
    ∀ i (hi : i < calls.length) (ho : i < (d.setups creates calls).length),
      ((d.setups creates calls)[i]).1 = d.run.leaves
      ∧ (∀ r, r ∈ ((d.setups creates calls)[i]).2 ↔
            r ∈ (calls[i]).2 ∨ ∃ x, x ∈ d.run.leaves ∧ r ∈ creates x)
      ∧ ∃ ext, ((d.setups creates calls)[i]).2 = (calls[i]).2 ++ ext := by
  refine ⟨by rw [setups_eq, List.length_map], ?_⟩
  intro i hi ho
  have hg : (d.setups creates calls)[i] = (d.run.leaves, setupWorldAcc creates d.run (calls[i]).2) := by
    simp only [setups_eq, List.getElem_map]
  rw [hg]
  exact ⟨rfl, fun r => mem_setupWorldAcc creates d.run _ r, setupWorldAcc_extends creates d.run _⟩

/-- one call: the dispatcher is the same afterwards (there is nothing to remember) -/
theorem setup_is_stateless (d : Disp) (v : Via) (creates : Nat → List ResId) (w : List ResId) :
    (d.setup v creates w).1 = d ∧ (d.setup v creates w).2.1 = d.run.leaves :=
  ⟨rfl, setup_reaches d.run⟩

/-- second call on a fresh (empty) world through the other entry point: same hooks, and the
resources of all three leaves are created again -/
example : (Disp.mk ex).setups (fun x => (exSpec x).creates) [(.inherent, [⟨0, 0⟩, ⟨1, 0⟩, ⟨2, 0⟩]), (.runNow, [])]
    = [([0, 1, 2], [⟨0, 0⟩, ⟨1, 0⟩, ⟨2, 0⟩]), ([0, 1, 2], [⟨0, 0⟩, ⟨1, 0⟩, ⟨2, 0⟩])] := by decide +kernel

/-- **C16 (`with` panics exactly on a conflict).** The `debug_assert!` of
`Par { head: h, tail: Nil }.with(sys)` fires iff some leaf under `h` and some leaf of `sys`
conflict: W/W or W/R (first disjunct of `conflictsD`) or R/W (second). -/
theorem with_check_iff (decl : Nat → Decl) (h sys : PS) :
    withCheck decl h sys = false ↔
      ∃ x, x ∈ h.leaves ∧ ∃ y, y ∈ sys.leaves ∧ conflictsD (decl x) (decl y) :=
  withCheck_false_iff

theorem parWith_panics_iff (decl : Nat → Decl) (h sys : PS) :
    parWith decl h sys = none ↔
      ∃ x, x ∈ h.leaves ∧ ∃ y, y ∈ sys.leaves ∧ conflictsD (decl x) (decl y) := by
  rw [← with_check_iff]
  unfold parWith
  cases withCheck decl h sys <;> simp

/-- both outcomes occur: leaf 2 writes what 0 and 1 read; 0 and 1 only share a read -/
example : withCheck exDecl (.par (.leaf 0) (.leaf 1)) (.leaf 2) = false := by decide
example : withCheck exDecl (.leaf 0) (.leaf 1) = true := by decide

/-- **C16 (`par![c0, c1, ..]`).** Complete description of `Par::new(c0).with(c1)..` in a
build with debug assertions: it succeeds with the left-nested tree when no child conflicts with
a child listed before it, and otherwise panics at the *first* child `k` that does. -/
theorem parOf_spec (decl : Nat → Decl) (c0 : PS) (cs : List PS) :
    match parOf decl c0 cs with
    | .ok t => t = parNew (cs.foldl PS.par c0)
        ∧ ∀ p c q, c0 :: cs = p ++ c :: q → ¬ ∃ a, a ∈ p ∧ ConflictL decl a.leaves c.leaves
    | .error k => ∃ p c q, c0 :: cs = p ++ c :: q ∧ p.length = k
        ∧ (∃ a, a ∈ p ∧ ConflictL decl a.leaves c.leaves)
        ∧ ∀ p' c' q', p = p' ++ c' :: q' → ¬ ∃ a, a ∈ p' ∧ ConflictL decl a.leaves c'.leaves := by
  have spec := parOf_apart decl c0 cs
  revert spec
  -- the quantifiers over `p ++ c :: q` spell out that the children are pairwise apart
  cases parOf decl c0 cs with
  | ok t =>
    rintro ⟨rfl, hpw⟩
    exact ⟨rfl, fun p c q e ⟨a, ha, hc⟩ => pairwise_split hpw e a ha hc⟩
  | error j =>
    rintro ⟨p, c, q, rfl, rfl, hpw, hc⟩
    exact ⟨c0 :: p, c, q, rfl, Nat.add_comm .., hc,
      fun p' c' q' e ⟨a, ha, hc⟩ => pairwise_split hpw e a ha hc⟩

/-- `par![..]` panics iff some child conflicts with a child listed before it -/
theorem parOf_panics_iff (decl : Nat → Decl) (c0 : PS) (cs : List PS) :
    (∃ k, parOf decl c0 cs = .error k) ↔
      ∃ p c q, c0 :: cs = p ++ c :: q ∧ ∃ a, a ∈ p ∧ ConflictL decl a.leaves c.leaves := by
  have spec := parOf_spec decl c0 cs
  constructor
  · rintro ⟨k, hk⟩
    rw [hk] at spec
    obtain ⟨p, c, q, h1, _, h2, _⟩ := spec
    exact ⟨p, c, q, h1, h2⟩
  · rintro ⟨p, c, q, h1, h2⟩
    cases hr : parOf decl c0 cs with
    | error k => exact ⟨k, rfl⟩
    | ok t =>
      rw [hr] at spec
      exact absurd h2 (spec.2 p c q h1)

example : parOf exDecl (.leaf 0) [.leaf 1, .leaf 2] = .error 2 := by rfl
example : parOf exDecl (.leaf 0) [.leaf 1] = .ok (.par (.par (.leaf 0) (.leaf 1)) .nil) := by rfl

/-- In a tree all of whose `Par` nodes passed the check, two distinct leaves that are inside
their fetch–drop windows at the same time never conflict — for every interleaving. -/
theorem checked_isolated (decl : Nat → Decl) (t : PS) (hc : Checked decl t) (hnd : t.leaves.Nodup)
    (l : List (Ev Nat)) (hl : Traces (toTask t) l) (p : List (Ev Nat)) (hp : p <+: l)
    (x y : Nat) (hne : x ≠ y) (hx : OpenIn x p) (hy : OpenIn y p) :
    ¬ conflictsD (decl x) (decl y) :=
  traces_isolated_of_noScope (compatD_symm decl) hl (wf_of_checked decl t hc) (noScope_toTask t)
    (sys_toTask t ▸ hnd) hp hne hx hy

/-- every tree the run-time assembly (`build`, what the driver and the harness do) returns in a
debug build is such a tree -/
theorem built_isolated (decl : Nat → Decl) (toks : List Tok) (t : PS) (hb : build decl toks = .built t)
    (hnd : t.leaves.Nodup) (l : List (Ev Nat)) (hl : Traces (toTask t) l) (p : List (Ev Nat))
    (hp : p <+: l) (x y : Nat) (hne : x ≠ y) (hx : OpenIn x p) (hy : OpenIn y p) :
    ¬ conflictsD (decl x) (decl y) :=
  checked_isolated decl t (build_checked hb) hnd l hl p hp x y hne hx hy

example : build exDecl [.openSeq, .openPar, .leaf 0, .leaf 1, .close, .leaf 2, .close] = .built ex := by rfl
example : build exDecl [.openPar, .leaf 0, .openSeq, .leaf 1, .close, .leaf 2, .close] = .panic 0 2 := by rfl

/-- **The driver's token machine is the recursive construction.** For an n-ary shape `s` (leaf, or
`par![..]` / `seq![..]` with at least one child, nested at will), running `build` on its token
list is the bottom-up construction with `parOf` / `seqOf` (`Sh.eval`): children left to right,
then the node; the first panicking `with` is reported as (position of the node's `P[`, child).
So `parOf_spec` and `seqOf_order` describe every node of every tree the driver builds. -/
theorem build_is_recursive (decl : Nat → Decl) (s : Sh) :
    build decl s.toks =
      match s.eval decl 0 with
      | .ok t => .built t
      | .error (n, k) => .panic n k := by
  rw [build, ← List.append_nil s.toks, buildGo_sh]
  cases s.eval decl 0 <;> rfl

example : (Sh.node false (.cons (.node true (.cons (.leaf 0) (.one (.leaf 1)))) (.one (.leaf 2)))).toks
    = [.openSeq, .openPar, .leaf 0, .leaf 1, .close, .leaf 2, .close] := by rfl

/-- the acceptor the driver runs is exact for these tasks: an event list is accepted iff it is a
trace (so every theorem above applies to every accepted real trace, and no real trace that is
a trace is ever rejected) -/
theorem acceptor_exact (t : PS) (hnd : t.leaves.Nodup) (l : List (Ev Nat)) :
    (toTask t).toR.accepts l = true ↔ Traces (toTask t) l :=
  accepts_toR_iff (toTask t) (sys_toTask t ▸ hnd) l

end PS
end Shred

#print axioms Shred.PS.run_once
#print axioms Shred.PS.seq_order
#print axioms Shred.PS.seq_order_nested
#print axioms Shred.PS.seqOf_order
#print axioms Shred.PS.par_may_overlap
#print axioms Shred.PS.par_either_first
#print axioms Shred.PS.reads_union
#print axioms Shred.PS.writes_union
#print axioms Shred.PS.reads_extends
#print axioms Shred.PS.setup_reaches
#print axioms Shred.PS.leaf_reports_own_accessor
#print axioms Shred.PS.leaf_reports_default_accessor
#print axioms Shred.PS.node_reports_own_accessors
#print axioms Shred.PS.with_check_own_accessors
#print axioms Shred.PS.every_setup_reaches
#print axioms Shred.PS.setup_is_stateless
#print axioms Shred.PS.with_check_iff
#print axioms Shred.PS.parWith_panics_iff
#print axioms Shred.PS.parOf_spec
#print axioms Shred.PS.parOf_panics_iff
#print axioms Shred.PS.checked_isolated
#print axioms Shred.PS.built_isolated
#print axioms Shred.PS.build_is_recursive
#print axioms Shred.PS.acceptor_exact
