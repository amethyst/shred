import ShredModel.Lemmas.WorldSpec
/-!
# C09 — World is a faithful typed map: values keep their type, slot and identity

`World.abs : World → (ResId → Option Nat)` is the abstraction: the token of the value stored under
each id. Statements are about `World.step` / `World.run` of `Model/World.lean` — the functions the
driver executes.
What Rust's type system guarantees is assumed, not proved: the value passed to
`insert_by_id::<R>` has type `R` (the model tags the new cell with the type argument), and a
`&mut World` call happens with no live guard (hypothesis `hl` where it matters).
-/
namespace Shred
namespace C09
open World

/-- **`refines`, state part**: every operation commutes with the abstraction: `insert` replaces,
`remove` empties the slot, `entry().or_insert(_with)` writes only a vacant slot, `setup` / `exec`
write defaults into vacant slots only, every other operation (all fetches, guard clone / drop,
presence queries, `get_mut`) leaves the map as it is. -/
theorem refines_state (w : World) (op : Op) : (w.step op).1.abs = absStep w.abs op := by
  cases op with
  | insert ty tok => exact (insertById_abs w ty ⟨ty, 0⟩ tok).trans (if_neg fun h => h rfl)
  | insertById a k tok => exact insertById_abs w a k tok
  | remove ty => exact (removeById_abs w ty ⟨ty, 0⟩).trans (if_neg fun h => h rfl)
  | removeById a k => exact removeById_abs w a k
  | entry ty tok bv => exact entryScoped_abs w ty tok bv
  | getMut _ | getMutRaw _ => rfl
  | setup items toks => exact setup_abs w items toks
  | exec items toks => exact (exec_same w items toks).abs.trans (setup_abs w items toks)
  | insertFused a k tok => exact (congrArg World.abs (insertFused_fst w a k tok)).trans (insertById_abs w a k tok)
  | entryFault ty tok f =>
    cases f with
    | guardHeld bv =>
      exact (congrArg World.abs (entryFault_guardHeld_fst w ty tok bv)).trans (entryScoped_abs w ty tok bv)
    | valueDrop =>
      show (w.entryFault ty tok .valueDrop).1.abs = if (w.abs ⟨ty, 0⟩).isSome then w.abs else _
      rw [entryFault_valueDrop]
      split
      · next h => exact (if_pos (abs_isSome.trans h)).symm
      · exact entryScoped_abs w ty tok true
    | closure =>
      show (w.entryFault ty tok .closure).1.abs = w.abs
      rw [entryFault_closure]
      split
      · next h => exact (entryScoped_abs w ty tok false).trans (if_pos (abs_isSome.trans h))
      · rfl
  | execFault items toks =>
    exact (congrArg World.abs (execFault_spec w items toks).1).trans
      ((exec_same w items toks).abs.trans (setup_abs w items toks))
  | _ => exact (step_same_of_not_mut w _ rfl).abs

/-- **`refines`, answer part**: every operation answers what the abstract map answers (`OutOk`):
`remove` returns the stored value, presence queries and `get_mut` agree with the map, a fetch that
does not end in a borrow panic returns a guard showing the stored value or reports absence, the
fields of system data show the stored values. -/
theorem refines_out {w : World} (hw : Inv w) (op : Op) (hl : op.isMut = true → w.guards = []) :
    OutOk w.abs op (w.step op).2 := by
  cases op with
  | insert ty tok => exact (insertById_out w ty ⟨ty, 0⟩ tok).trans (if_neg fun h => h rfl)
  | insertById a k tok => exact insertById_out w a k tok
  | remove ty => exact (removeById_out w ty ⟨ty, 0⟩).trans (if_neg fun h => h rfl)
  | removeById a k => exact removeById_out w a k
  | entry ty tok bv => exact entryScoped_out hw (hl rfl) ty tok bv
  | hasValue _ | hasValueRaw _ => exact hasValueRaw_out w _
  | getMut _ | getMutRaw _ => exact getMutRaw_out w _
  | setup items toks => rfl
  | exec items toks => exact exec_out w items toks
  | fetch _ | fetchMut _ | tryFetch _ | tryFetchMut _ => exact fetchCore_fetchOk
  | tryFetchById a k | tryFetchMutById a k => exact byId_out rfl
  | systemData items =>
    rcases sysData_out w items with ⟨w2, fs, h⟩ | ⟨w2, p, h, _⟩
    · exact Or.inr ⟨fs, congrArg Prod.snd h, sysData_fields w items fs (congrArg Prod.snd h)⟩
    · exact Or.inl ⟨p, congrArg Prod.snd h⟩
  | metaNext tys idx x =>
    rw [show (w.step (.metaNext tys idx x)).2 = (w.metaScan x (tys.drop idx) idx).2.1 from rfl]
    rcases metaScan_cases w x (tys.drop idx) idx with ⟨_, h2, h3⟩ | ⟨pre, ty, post, he, hpre, hty, _, h2, _⟩
    · exact Or.inl ⟨h2, fun ty hty => abs_none_iff.mpr (h3 ty hty)⟩
    · exact Or.inr ⟨pre, ty, post, he, fun t ht => abs_none_iff.mpr (hpre t ht),
        abs_isSome.trans hty, h2 ▸ fetchCore_fetchOk⟩
  | clone h => exact True.intro
  | drop h => rfl
  | scope tys takes e => exact ⟨_, _, rfl⟩
  | insertFused a k tok => exact insertFused_out w a k tok
  | entryFault ty tok f =>
    have hg := hl rfl
    have vacant : ¬(w.get ⟨ty, 0⟩).isSome = true → w.abs ⟨ty, 0⟩ = none :=
      fun h => abs_none_iff.mpr (Option.not_isSome_iff_eq_none.mp h)
    cases f with
    | guardHeld bv => exact entryFault_guardHeld_out hw hg ty tok bv
    | valueDrop =>
      show (w.entryFault ty tok .valueDrop).2 = if (w.abs ⟨ty, 0⟩).isSome then _ else _
      rw [entryFault_valueDrop, abs_isSome]
      split
      · rfl
      · next h => rw [entryScoped_out hw hg, vacant h]; rfl
    | closure =>
      show (w.entryFault ty tok .closure).2 = match w.abs ⟨ty, 0⟩ with | some t => .seen t | none => _
      rw [entryFault_closure]
      split
      · next h =>
        obtain ⟨t0, h0⟩ := Option.isSome_iff_exists.mp (abs_isSome.trans h)
        rw [entryScoped_out hw hg, h0]; rfl
      · next h => rw [vacant h]
  | execFault items toks =>
    rcases (execFault_spec w items toks).2 with ⟨h, _⟩ | ⟨p, h, _⟩
    · exact Or.inr h
    · exact Or.inl ⟨p, h⟩

/-- `insert` replaces: afterwards the slot holds the new value, whatever it held before -/
theorem insert_replaces (w : World) (a : Nat) (k : ResId) (t : Nat) (h : a = k.ty) :
    (w.step (.insertById a k t)).1.abs k = some t ∧ (w.step (.insertById a k t)).2 = .unit := by
  refine ⟨?_, (insertById_out w a k t).trans (if_neg fun e => e h)⟩
  rw [refines_state]
  show (if a ≠ k.ty then w.abs else upd w.abs k (some t)) k = some t
  rw [if_neg fun e => e h, upd_same]

/-- `remove` returns the stored value and empties the slot -/
theorem remove_returns (w : World) (a : Nat) (k : ResId) (h : a = k.ty) :
    (w.step (.removeById a k)).2 = (match w.abs k with | some t => .value t | none => .none) ∧
    (w.step (.removeById a k)).1.abs k = none := by
  refine ⟨(removeById_out w a k).trans (if_neg fun e => e h), ?_⟩
  rw [refines_state]
  show (if a ≠ k.ty then w.abs else upd w.abs k none) k = none
  rw [if_neg fun e => e h, upd_same]

/-- `entry().or_insert(..)` never overwrites: an occupied slot keeps its value, and that value is
what the returned guard shows -/
theorem or_insert_never_overwrites {w : World} (hw : Inv w) (hg : w.guards = []) (ty t t0 : Nat) (bv : Bool)
    (h : w.abs ⟨ty, 0⟩ = some t0) :
    (w.step (.entry ty t bv)).1.abs = w.abs ∧ (w.step (.entry ty t bv)).2 = .seen t0 := by
  refine ⟨?_, ?_⟩
  · rw [refines_state]
    exact if_pos (by rw [h]; rfl)
  · have : (w.step (.entry ty t bv)).2 = .seen ((w.abs ⟨ty, 0⟩).getD t) :=
      refines_out hw (.entry ty t bv) fun _ => hg
    rw [this, h]; rfl

/-- slots with different ids — in particular the same type under different dynamic ids — are
independent: an operation on `k` leaves every other slot alone -/
theorem dyn_independent (w : World) (a : Nat) (k k' : ResId) (t : Nat) (h : k' ≠ k) :
    (w.step (.insertById a k t)).1.abs k' = w.abs k' ∧ (w.step (.removeById a k)).1.abs k' = w.abs k' := by
  rw [refines_state, refines_state]
  constructor
  · show (if a ≠ k.ty then w.abs else upd w.abs k (some t)) k' = w.abs k'
    split
    · rfl
    · exact upd_other _ _ h
  · show (if a ≠ k.ty then w.abs else upd w.abs k none) k' = w.abs k'
    split
    · rfl
    · exact upd_other _ _ h

/-- the three data invariants hold after every history from the empty world: **`typed`** (the
value stored under an id has the type named by the id), keys are unique, and **`linear`**
(conservation: with multiplicity, every created value is stored, was returned, or was dropped) -/
theorem typed_linear_invariant (ops : List Op) : MapOk (run {} ops) := run_mapOk mapOk_empty ops

/-- … and every single operation preserves them from any such world -/
theorem step_preserves_typed_linear {w : World} (hm : MapOk w) (op : Op) : MapOk (w.step op).1 :=
  step_mapOk hm op

/-- **`typed`**, spelled out -/
theorem typed (ops : List Op) (k : ResId) (c : Cell) (h : (run {} ops).get k = some c) : c.ty = k.ty :=
  (typed_linear_invariant ops).typed k c h

/-- **`mismatch_panics`**: each of the four id-taking calls, given a type argument that disagrees
with the id, panics with the type-id assertion and leaves both tables unchanged (the value passed
to `insert_by_id` is dropped by the unwinding, nothing else is — in particular not the stored
value, whether or not its `Drop` would panic). -/
theorem mismatch_panics (w : World) (a : Nat) (k : ResId) (t : Nat) (h : a ≠ k.ty) :
    (w.step (.insertById a k t)) =
      ({ w with created := w.created ++ [t], dropped := w.dropped ++ [t] }, .panic .wrongType) ∧
    (w.step (.removeById a k)) = (w, .panic .wrongType) ∧
    (w.step (.tryFetchById a k)) = (w, .panic .wrongType) ∧
    (w.step (.tryFetchMutById a k)) = (w, .panic .wrongType) ∧
    (w.step (.insertFused a k t)) = (w.step (.insertById a k t)) :=
  -- the two by-id fetches are `if a ≠ k.ty then (w, .panic .wrongType) else …` as they stand
  ⟨insertById_of_ne h w t, removeById_of_ne h w, if_pos h, if_pos h,
    insertFused_eq_of_panic ((insertFused_out w a k t).trans (if_pos h))⟩

/-- and conversely the assertion fires only then -/
theorem wrongType_only_on_mismatch (w : World) (op : Op) (h : (w.step op).2 = .panic .wrongType) :
    ∃ a k, a ≠ k.ty ∧ ((∃ t, op = .insertById a k t) ∨ op = .removeById a k ∨ op = .tryFetchById a k ∨
      op = .tryFetchMutById a k ∨ (∃ t, op = .insertFused a k t)) := by
  -- the five id-taking calls answer `if a ≠ k.ty then wrongType else o` with an `o` that is not that panic
  have asserted : ∀ {c : Prop} [Decidable c] {x o : Out},
      x = (if c then .panic .wrongType else o) → x = .panic .wrongType → o ≠ .panic .wrongType → c := by
    intro c _ x o e h ho
    rw [e] at h
    split at h
    · assumption
    · exact absurd h ho
  have removed : ∀ k, (match w.abs k with | some t => Out.value t | none => .none) ≠ .panic .wrongType := by
    intro k; cases w.abs k <;> nofun
  have seen : ∀ k, (match w.abs k with | some t => Out.seen t | none => .none) ≠ .panic .wrongType := by
    intro k; cases w.abs k <;> nofun
  cases op with
  | insert ty tok => exact absurd rfl (asserted (insertById_out w ty ⟨ty, 0⟩ tok) h nofun)
  | insertById a k tok => exact ⟨a, k, asserted (insertById_out w a k tok) h nofun, Or.inl ⟨tok, rfl⟩⟩
  | remove ty => exact absurd rfl (asserted (removeById_out w ty ⟨ty, 0⟩) h (removed _))
  | removeById a k => exact ⟨a, k, asserted (removeById_out w a k) h (removed k), Or.inr (Or.inl rfl)⟩
  | entry ty tok bv => exact absurd h entryScoped_not_wrongType
  | hasValue _ | hasValueRaw _ | setup _ _ | drop _ | scope _ _ _ => cases h
  | getMut _ | getMutRaw _ => exact absurd (getMutRaw_out w _ ▸ h) (seen _)
  | exec items toks => exact absurd h (exec_not_wrongType w items toks).1
  | fetch _ | fetchMut _ | tryFetch _ | tryFetchMut _ => exact absurd h fetchCore_not_wrongType
  | tryFetchById a k =>
    exact ⟨a, k, asserted (apply_ite Prod.snd ..) h fetchCore_not_wrongType, Or.inr (Or.inr (Or.inl rfl))⟩
  | tryFetchMutById a k =>
    exact ⟨a, k, asserted (apply_ite Prod.snd ..) h fetchCore_not_wrongType,
      Or.inr (Or.inr (Or.inr (Or.inl rfl)))⟩
  | systemData items => exact absurd h sysData_not_wrongType
  | metaNext tys idx x =>
    exfalso
    rw [show (w.step (.metaNext tys idx x)).2 = (w.metaScan x (tys.drop idx) idx).2.1 from rfl] at h
    rcases metaScan_cases w x (tys.drop idx) idx with ⟨_, h2, _⟩ | ⟨_, ty, _, _, _, _, _, h2, _⟩ <;> rw [h2] at h
    · cases h
    · exact fetchCore_not_wrongType h
  | clone x =>
    exfalso
    simp only [step, cloneGuard] at h
    split at h
    · split at h
      · cases h
      · exact fetchCore_not_wrongType h
    · cases h
  | insertFused a k tok =>
    exact ⟨a, k, asserted (insertFused_out w a k tok) h (by split <;> nofun), Or.inr (Or.inr (Or.inr (Or.inr ⟨tok, rfl⟩)))⟩
  | entryFault ty tok f =>
    exfalso
    cases f with
    | guardHeld bv => exact entryScoped_not_wrongType (entryFault_guardHeld_panic w ty tok bv _ h)
    | valueDrop =>
      rw [step, entryFault_valueDrop] at h
      split at h
      · cases h
      · exact entryScoped_not_wrongType h
    | closure =>
      rw [step, entryFault_closure] at h
      split at h
      · exact entryScoped_not_wrongType h
      · cases h
  | execFault items toks => exact absurd h (exec_not_wrongType w items toks).2

/-- **`linear`**: in every history whose value arguments carry pairwise distinct tokens, every
token that was created is, at the end, in exactly one of {stored in the world, returned to the
caller, dropped} and occurs there exactly once — so it was dropped at most once; a token that
was never created occurs nowhere. -/
theorem linear (ops : List Op) (hd : (ops.flatMap Op.tokens).Nodup) (t : Nat) :
    let w := run {} ops
    (t ∈ w.created → w.tokens.count t + w.returned.count t + w.dropped.count t = 1) ∧
    (t ∉ w.created → t ∉ w.tokens ∧ t ∉ w.returned ∧ t ∉ w.dropped) ∧
    w.dropped.Nodup ∧ (∀ x ∈ w.created, x ∈ ops.flatMap Op.tokens) :=
  run_linear mapOk_empty ops hd t

/-- **every value is dropped exactly once**: when finally the world itself is dropped, every
created value has been dropped exactly once or is in the caller's hands (returned by `remove`) -/
theorem dropped_exactly_once (ops : List Op) (hd : (ops.flatMap Op.tokens).Nodup) (t : Nat)
    (ht : t ∈ (run {} ops).created) :
    (run {} ops).dropWorld.dropped.count t + (run {} ops).dropWorld.returned.count t = 1 := by
  have hl := dropWorld_linear (typed_linear_invariant ops).linear
  have := linear_once hl.1 (run_created_nodup (w := {}) ops (by simpa using hd)) t ht
  rwa [hl.2, List.count_nil, Nat.zero_add, Nat.add_comm] at this

/-! ## values whose `Drop` panics, closures that panic

The three data invariants and `linear` above quantify over *all* operations, including the ones
below; these theorems say what each of them does to the map. -/

/-- **insert replaces, also when the replaced value's `Drop` panics**: the call is unwound by that
panic, but the slot holds the new value, the old value's `drop` ran exactly once, and nothing else
was dropped (same state as the plain call) -/
theorem insert_replaces_when_drop_panics (w : World) (a : Nat) (k : ResId) (t t0 : Nat) (h : a = k.ty)
    (h0 : w.abs k = some t0) :
    (w.step (.insertFused a k t)).2 = .unwound .drop ∧
    (w.step (.insertFused a k t)).1 = (w.step (.insertById a k t)).1 ∧
    (w.step (.insertFused a k t)).1.abs k = some t ∧
    (w.step (.insertFused a k t)).1.dropped = w.dropped ++ [t0] ∧
    (w.step (.insertFused a k t)).1.created = w.created ++ [t] := by
  have hf : (w.step (.insertFused a k t)).1 = (w.step (.insertById a k t)).1 := insertFused_fst w a k t
  refine ⟨?_, hf, ?_, ?_, ?_⟩
  · show (w.insertFused a k t).2 = _
    rw [insertFused_out, if_neg fun e => e h, h0]
    rfl
  · rw [hf]; exact (insert_replaces w a k t h).1
  · -- the replaced value is the one the map showed
    rw [hf]
    show (w.insertById a k t).1.dropped = _
    rw [insertById_of_eq h]
    show w.dropped ++ (w.abs k).toList = _
    rw [h0]
    rfl
  · rw [hf]; exact insertById_created w a k t

/-- a vacant slot drops nothing: the armed call is the plain call -/
theorem insert_vacant_drops_nothing (w : World) (a : Nat) (k : ResId) (t : Nat) (h0 : w.abs k = none) :
    w.step (.insertFused a k t) = w.step (.insertById a k t) := by
  show w.insertFused a k t = w.insertById a k t
  rw [insertFused_eq, abs_none_iff.mp h0]
  exact Prod.ext rfl (insertById_out w a k t).symm

/-- **`entry().or_insert(v)` never overwrites, also when `v`'s `Drop` panics**: on an occupied slot
`v` is dropped (its `drop` ran once, the call is unwound), the stored value stays, no guard exists -/
theorem or_insert_occupied_drop_panics (w : World) (ty t t0 : Nat) (h : w.abs ⟨ty, 0⟩ = some t0) :
    (w.step (.entryFault ty t .valueDrop)).2 = .unwound .drop ∧
    (w.step (.entryFault ty t .valueDrop)).1.abs = w.abs ∧
    (w.step (.entryFault ty t .valueDrop)).1.cells = w.cells ∧
    (w.step (.entryFault ty t .valueDrop)).1.guards = w.guards ∧
    (w.step (.entryFault ty t .valueDrop)).1.dropped = w.dropped ++ [t] := by
  have ho : (w.get ⟨ty, 0⟩).isSome = true := abs_isSome.symm.trans (by rw [h]; rfl)
  rw [show w.step (.entryFault ty t .valueDrop) = _ from (entryFault_valueDrop w ty t).trans (if_pos ho)]
  exact ⟨rfl, rfl, rfl, rfl, rfl⟩

/-- **`or_insert_with(f)` with an `f` that panics stores nothing**: on a vacant slot the world is
untouched (the slot stays vacant, nothing was created); on an occupied one `f` does not run -/
theorem or_insert_with_closure_panics (w : World) (ty t : Nat) :
    (w.abs ⟨ty, 0⟩ = none → w.step (.entryFault ty t .closure) = (w, .unwound .closure)) ∧
    ((w.abs ⟨ty, 0⟩).isSome → w.step (.entryFault ty t .closure) = w.step (.entry ty t false)) := by
  constructor
  · intro h
    exact (entryFault_closure w ty t).trans (if_neg (by rw [abs_none_iff.mp h]; nofun))
  · intro h
    exact (entryFault_closure w ty t).trans (if_pos (abs_isSome.symm.trans h))

/-- a caller that panics while holding the `entry` guard: the value is stored all the same -/
theorem entry_stores_before_caller_panics (w : World) (ty t : Nat) (bv : Bool) :
    (w.step (.entryFault ty t (.guardHeld bv))).1 = (w.step (.entry ty t bv)).1 :=
  entryFault_guardHeld_fst w ty t bv

/-- the caller dropping a value `remove` handed back: conservation goes on -/
theorem dropReturned_keeps_linear {w : World} (hm : MapOk w) (t : Nat) : MapOk (w.dropReturned t) := by
  refine ⟨?_, ?_, dropReturned_linear hm.linear t⟩
  · unfold dropReturned; split <;> exact hm.typed
  · unfold dropReturned; split <;> exact hm.keys

/-- **the world dropped while the `Drop` of one stored value panics** (whichever values the table
had dropped before it): every value created in the history is afterwards dropped exactly once, in
the caller's hands, or leaked — exactly one of the three; none is dropped twice -/
theorem dropWorld_panic_at_most_once (ops : List Op) (hd : (ops.flatMap Op.tokens).Nodup) (tok : Nat)
    (before leaked : List Nat) (w' : World) (h : (run {} ops).dropWorldPanic tok before = some (w', leaked))
    (t : Nat) (ht : t ∈ (run {} ops).created) :
    w'.dropped.count t + w'.returned.count t + leaked.count t = 1 ∧ w'.cells = [] :=
  dropWorldPanic_once (typed_linear_invariant ops).linear
    (run_created_nodup (w := {}) ops (by simpa using hd)) h t ht

/-- a history with replacement, removal, entry on vacant and occupied slots, dynamic ids,
mismatching calls, setup and exec -/
def sample : List Op :=
  [.insert 1 10, .insert 1 11, .insertById 2 ⟨2, 5⟩ 12, .insertById 3 ⟨2, 5⟩ 13, .entry 1 14 true,
   .entry 3 15 false, .removeById 2 ⟨2, 5⟩, .removeById 1 ⟨2, 6⟩, .setup [⟨0, false, false, true⟩, ⟨1, true, false, true⟩] [16, 17],
   .exec [⟨2, true, false, true⟩, ⟨4, false, true, true⟩] [18, 19], .remove 3]

example : (sample.flatMap Op.tokens).Nodup := by decide +kernel

example : (run {} sample).cells.map (fun p => (p.1.ty, p.1.dyn, p.2.ty, p.2.token)) =
      [(1, 0, 1, 11), (0, 0, 0, 16), (2, 0, 2, 18)] ∧
    (run {} sample).created = [10, 11, 12, 13, 14, 15, 16, 18] ∧
    (run {} sample).returned = [12, 15] ∧ (run {} sample).dropped = [10, 13, 14] := by decide +kernel

/-- hypotheses of `mismatch_panics` / `or_insert_never_overwrites` are satisfiable -/
example : ((run {} (sample.take 3)).step (.insertById 3 ⟨2, 5⟩ 13)).2 = .panic .wrongType ∧
    (run {} (sample.take 4)).abs ⟨1, 0⟩ = some 11 ∧ (run {} (sample.take 4)).guards = [] := by decide +kernel

/-- a history with the faults: replacing a value whose `Drop` panics, `or_insert` of such a value
on an occupied slot, a panicking `or_insert_with` closure on a vacant and on an occupied slot, a
caller panicking with the entry guard, an `exec` closure that panics -/
def faulty : List Op :=
  [.insert 1 10, .insertFused 1 ⟨1, 0⟩ 11, .insertFused 2 ⟨2, 3⟩ 12, .entryFault 1 13 .valueDrop,
   .entryFault 3 0 .closure, .entryFault 1 0 .closure, .entryFault 3 14 (.guardHeld true),
   .execFault [⟨0, true, false, true⟩] [15], .removeById 2 ⟨2, 3⟩]

example : (faulty.flatMap Op.tokens).Nodup := by decide +kernel

example : (run {} faulty).cells.map (fun p => (p.1.ty, p.1.dyn, p.2.ty, p.2.token, p.2.borrow)) =
      [(1, 0, 1, 11, .free), (3, 0, 3, 14, .free), (0, 0, 0, 15, .free)] ∧
    (run {} faulty).created = [10, 11, 12, 13, 14, 15] ∧
    (run {} faulty).returned = [12] ∧ (run {} faulty).dropped = [10, 13] ∧ (run {} faulty).guards = [] ∧
    ((run {} (faulty.take 1)).step (.insertFused 1 ⟨1, 0⟩ 11)).2 = .unwound .drop ∧
    ((run {} (faulty.take 2)).step (.insertFused 2 ⟨2, 3⟩ 12)).2 = .unit ∧
    ((run {} (faulty.take 4)).step (.entryFault 3 0 .closure)).2 = .unwound .closure ∧
    ((run {} (faulty.take 5)).step (.entryFault 1 0 .closure)).2 = .seen 11 ∧
    ((run {} (faulty.take 7)).step (.execFault [⟨0, true, false, true⟩] [15])).2 = .unwound .closure := by decide +kernel

/-- dropping that world while the `Drop` of value 14 panics after value 15 was dropped: 11 is leaked -/
example : (((run {} faulty).dropReturned 12).dropWorldPanic 14 [15]).map
      (fun r => (r.1.dropped, r.1.returned, r.1.cells.length, r.2)) =
    some ([10, 13, 12, 15, 14], [], 0, [11]) := by decide +kernel

/-- and an order the table cannot have produced is rejected -/
example : ((run {} faulty).dropWorldPanic 14 [15, 15]).isNone ∧ ((run {} faulty).dropWorldPanic 14 [12]).isNone ∧
    ((run {} faulty).dropWorldPanic 12 []).isNone := by decide +kernel

end C09
end Shred

#print axioms Shred.C09.refines_state
#print axioms Shred.C09.refines_out
#print axioms Shred.C09.insert_replaces
#print axioms Shred.C09.remove_returns
#print axioms Shred.C09.or_insert_never_overwrites
#print axioms Shred.C09.dyn_independent
#print axioms Shred.C09.typed_linear_invariant
#print axioms Shred.C09.step_preserves_typed_linear
#print axioms Shred.C09.typed
#print axioms Shred.C09.mismatch_panics
#print axioms Shred.C09.wrongType_only_on_mismatch
#print axioms Shred.C09.linear
#print axioms Shred.C09.dropped_exactly_once
#print axioms Shred.C09.insert_replaces_when_drop_panics
#print axioms Shred.C09.insert_vacant_drops_nothing
#print axioms Shred.C09.or_insert_occupied_drop_panics
#print axioms Shred.C09.or_insert_with_closure_panics
#print axioms Shred.C09.entry_stores_before_caller_panics
#print axioms Shred.C09.dropReturned_keeps_linear
#print axioms Shred.C09.dropWorld_panic_at_most_once
