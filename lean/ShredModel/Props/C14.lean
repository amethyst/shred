import ShredModel.Lemmas.PExec
import ShredModel.Lemmas.PAccept
/-!
# C14 — a panicking system is contained

**What the driver checks.** `Accepted t l o`: the panic-aware acceptor (`PR.run`, the function
the driver executes on every recorded log, injected panics included) accepts `l` for task `t`
with outcome `o` (`true` = a panic leaves the dispatch). The acceptor follows the code: a `seq`
(stage loop, group loop, thread-local loop) stops at the first part that ended in a panic; at a
`par` the started siblings run to their own end and — as observed of rayon, which runs several
groups of a stage in one sequential chunk — groups that were never started may be left out once
a sibling has panicked; a batch controller may panic whenever no inner system is inside its
window. For **every** accepted log:

* `C14_panic_reported_iff` — a panic reaches the caller iff some system was unwound;
* `C14_dependents_dont_run` — nothing ordered after an unwound system (dependency, barrier,
  later in its group, later stage, thread-local, inside or outside batches) starts;
* `C14_at_most_once` — no instance starts twice;
* `C14_nothing_left_open` — every window that was opened is closed (data dropped normally or by
  unwinding): replayed on the world model no borrow is outstanding.

The plan is not changed by a dispatch, so the next dispatch is accepted from `t.toPR` again and
C04 applies to it (`reusable` is definitional in the model; the engine checks it on the crate).

**The declarative semantics** `PTraces pan t l o` (which instances panic is a parameter), kept as
the readable specification: `C14_panicked_iff`, `C14_payload_source`,
`C14_dependents_dont_run_spec`, and `C14_spec_is_accepted` (the acceptor accepts whatever it allows).
-/
namespace Shred
variable {ι : Type} [DecidableEq ι]

/-- the driver's acceptor accepts log `l` for one dispatch of `t`, with outcome `o` -/
def Accepted (t : Task ι) (l : List (PEv ι)) (o : Bool) : Prop := t.toPR.run l = some o

instance (t : Task ι) (l : List (PEv ι)) (o : Bool) : Decidable (Accepted t l o) := by
  unfold Accepted; infer_instance

/-- in the form the driver computes it (`Drv/Plan.lean`): `PR.deriv` event by event, then at
`trace-end` the test `finalOk false` and the outcome `hasPanic` -/
theorem accepted_iff (t : Task ι) (l : List (PEv ι)) (o : Bool) :
    Accepted t l o ↔ ∃ r', t.toPR.steps l = some r' ∧ r'.finalOk false = true ∧ o = r'.hasPanic :=
  PR.run_eq_some_iff

/-- **C14 (propagation).** -/
theorem C14_panic_reported_iff {t : Task ι} {l : List (PEv ι)} {o : Bool} (h : Accepted t l o) :
    o = true ↔ ∃ s, PEv.P s ∈ l := by
  obtain ⟨r', hr, _, ho⟩ := PR.run_runs h
  rw [ho, hr.hasPanic, hasPanic_toPR]
  simp

/-- **C14 (dependents do not run).** -/
theorem C14_dependents_dont_run {t : Task ι} {l : List (PEv ι)} {o : Bool} (h : Accepted t l o)
    (hnd : t.sys.Nodup) (x y : ι) (hb : Before t x y) (hp : PEv.P x ∈ l) : PEv.F y ∉ l := by
  obtain ⟨r', hr, _, _⟩ := PR.run_runs h
  exact dependents_dont_start hb hr hnd hp

/-- **C14 (no system runs more than once).** -/
theorem C14_at_most_once {t : Task ι} {l : List (PEv ι)} {o : Bool} (h : Accepted t l o)
    (hnd : t.sys.Nodup) (x : ι) : l.count (PEv.F x) ≤ 1 := by
  obtain ⟨r', hr, _, _⟩ := PR.run_runs h
  exact hr.count_F_le_one (by rw [insts_toPR]; exact hnd) x

/-- **C14 (nothing is left borrowed).** -/
theorem C14_nothing_left_open {t : Task ι} {l : List (PEv ι)} {o : Bool} (h : Accepted t l o)
    (x : ι) (hx : PEv.F x ∈ l) : PEv.D x ∈ l ∨ PEv.P x ∈ l := by
  obtain ⟨r', hr, hf, _⟩ := PR.run_runs h
  exact hr.closed false hf x hx

/-- every event of an accepted log belongs to an instance of the plan -/
theorem C14_events_of_plan {t : Task ι} {l : List (PEv ι)} {o : Bool} (h : Accepted t l o)
    (e : PEv ι) (he : e ∈ l) : e.sys ∈ t.sys := by
  obtain ⟨r', hr, _, _⟩ := PR.run_runs h
  exact insts_toPR t ▸ hr.ev_sys e he

/-- non-vacuity: stage `[[0],[1]]` then system `2`; `0` panics, its sibling `1` still runs, `2`
(ordered after both) does not; and the rayon behaviour that a sibling that never started is
left out is accepted too -/
example : Accepted (.seq (.par (.leaf 0) (.leaf 1)) (.leaf 2)) [.F 0, .F 1, .P 0, .D 1] true ∧
    Accepted (.seq (.par (.leaf 0) (.leaf 1)) (.leaf 2)) [.F 0, .P 0] true ∧
    (.seq (.par (.leaf 0) (.leaf 1)) (.leaf 2) : Task Nat).toPR.run [.F 0, .P 0, .F 2, .D 2] = none ∧
    Accepted (.seq (.par (.leaf 0) (.leaf 1)) (.leaf 2)) [.F 1, .F 0, .D 0, .D 1, .F 2, .D 2] false := by
  decide +kernel

variable {pan : ι → Prop}

/-- a panic reaches the caller iff some system emitted `P` … -/
theorem C14_panicked_iff {t : Task ι} {l : List (PEv ι)} {o : Bool} (h : PTraces pan t l o) :
    o = true ↔ ∃ s, PEv.P s ∈ l := panicked_iff h

/-- … and then a system that really panicked is among them (the payload is a panicking system's) -/
theorem C14_payload_source {t : Task ι} {l : List (PEv ι)} {o : Bool} (h : PTraces pan t l o) :
    o = true → ∃ s, pan s ∧ PEv.P s ∈ l := panic_source h

theorem C14_dependents_dont_run_spec {t : Task ι} {l : List (PEv ι)} {o : Bool}
    (h : PTraces pan t l o) (hnd : t.sys.Nodup) (x y : ι) (hb : Before t x y) (hp : PEv.P x ∈ l) :
    PEv.F y ∉ l := dependents_dont_run h hnd x y hb hp

/-- **no false alarm**: every execution the declarative semantics allows — whichever instances
panic, however the siblings interleave — is accepted by the driver's acceptor, with the same
outcome. -/
theorem C14_spec_is_accepted {t : Task ι} {l : List (PEv ι)} {o : Bool} (h : PTraces pan t l o)
    (hnd : t.sys.Nodup) : Accepted t l o := ptraces_run h hnd

end Shred

#print axioms Shred.accepted_iff
#print axioms Shred.C14_panic_reported_iff
#print axioms Shred.C14_dependents_dont_run
#print axioms Shred.C14_at_most_once
#print axioms Shred.C14_nothing_left_open
#print axioms Shred.C14_events_of_plan
#print axioms Shred.C14_panicked_iff
#print axioms Shred.C14_payload_source
#print axioms Shred.C14_dependents_dont_run_spec
#print axioms Shred.C14_spec_is_accepted
