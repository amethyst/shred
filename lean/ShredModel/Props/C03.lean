import ShredModel.Lemmas.Scenario
import ShredModel.Lemmas.NestedTop
/-!
# C03 — barriers

Quantifiers: every registration sequence `ops` (any number of systems, any declarations, any
dependency lists over earlier systems, barriers anywhere), every list of thread-local systems,
and **every trace** of the resulting plan, i.e. every interleaving a thread pool of any size
can produce.
-/
namespace Shred
namespace Scenario
variable (sc : Scenario)

/-- **C03 (barriers).** Everything registered before a barrier has finished before anything
registered after it starts: `k` is the number of systems registered when the barrier was added. -/
theorem C03_barriers (l : List (Ev SysTag)) (hl : Traces sc.plan l)
    (k : Nat) (hk : k ∈ sc.final.bars) (x y : SysTag) (hx : x < k) (hy : k ≤ y) (hyn : y < sc.final.n)
    (l1 l2 : List (Ev SysTag)) (hsplit : l = l1 ++ Ev.F y :: l2) : Ev.D x ∈ l1 :=
  traces_before hl sc.plan_nodup x y (before_of_tOrdered (sc.ordered_of_barrier hk hx hy hyn) sc.tl) l1 l2 hsplit

end Scenario

/-- **C03 (a repeated barrier changes nothing).** -/
theorem C03_addBarrier_idem (b : StagesBuilder) : b.addBarrier.addBarrier = b.addBarrier := rfl

/-- **C03 (a leading barrier changes nothing).** -/
theorem C03_addBarrier_init : ({} : StagesBuilder).addBarrier = {} := rfl

/-- **C03 (a barrier where nothing was registered since the previous one changes nothing):**
`add_barrier` only records the current number of stages; if that is what it already holds, the
builder — hence every later placement — is unchanged. -/
theorem C03_addBarrier_noop (b : StagesBuilder) (h : b.barrier = b.stages.length) : b.addBarrier = b := by
  cases b; simp_all [StagesBuilder.addBarrier]

/-- … and that is the situation right after a barrier: registering nothing keeps it -/
theorem C03_barrier_after_barrier (b : StagesBuilder) : b.addBarrier.barrier = b.addBarrier.stages.length := rfl

/-- **C03 on the tagged table the driver uses** (also inside batches: an inner builder is a
builder; thread-local systems are not part of the staged table, see `C07_nested_tl_last`): a
barrier orders every earlier registration before every later one. -/
theorem C03_barrier_order_tagged (sc : Scenario) (τ : Nat → SysTag) (k : Nat) (hk : k ∈ sc.final.bars)
    (x y : Nat) (hx : x < k) (hy : k ≤ y) (hyn : y < sc.final.n) :
    TOrdered (sc.taggedStages τ) (τ x) (τ y) := by
  rw [sc.taggedStages_eq]
  exact (sc.ordered_of_barrier hk hx hy hyn).mapT τ

end Shred

#print axioms Shred.Scenario.C03_barriers
#print axioms Shred.C03_addBarrier_idem
#print axioms Shred.C03_addBarrier_init
#print axioms Shred.C03_addBarrier_noop
#print axioms Shred.C03_barrier_after_barrier
#print axioms Shred.C03_barrier_order_tagged
