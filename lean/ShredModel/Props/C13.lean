import ShredModel.Lemmas.Lifecycle
import ShredModel.Lemmas.Scenario
/-!
# C13 — setup and dispose reach every system once; setup never clobbers

`setupOrder` / `disposeOrder` mirror the fan-out of `Dispatcher::setup` / `dispose` over
stages, groups, systems, batch wrappers (which forward to their inner dispatcher — for
`dispose` only after repair D2) and the thread-local list. The world part (`setupWorld`) is
the `DefaultProvider` / `PanicHandler` / `Option` behaviour for the controller data types the
harness uses; the same statements for **every** system-data type are C06's
`setup_preserves` / `setup_creates` (Props/C06.lean).
-/
namespace Shred

/-- **C13 (setup reaches).** The systems whose `setup` hook is called are exactly the systems
of the dispatcher in layout order, every batch replaced by the systems its inner dispatcher
sets up — at any nesting depth, since inner lists are built the same way. -/
theorem C13_setup_reaches (stages : Table (List SysTag)) (tl : List SysTag) (bs : List (SysTag × Nat × List LEv)) :
    setupSys (setupOrder stages tl bs) = sysList stages tl fun t => (findL bs t).map fun p => setupSys p.2 := by
  rw [setupSys_eq]
  unfold setupOrder
  -- per system `t`: the `S` events of `C t k :: inner` (a batch) are `setupSys inner`, those of `[S t]` are `[t]`
  refine filterMap_order _ .S (fun _ => rfl) stages tl _ _ fun t => ?_
  cases findL bs t with
  | none => rfl
  | some p => exact (setupSys_eq p.2).symm

/-- **C13 (dispose reaches).** Same for the `dispose` hooks. -/
theorem C13_dispose_reaches (stages : Table (List SysTag)) (tl : List SysTag) (bs : List (SysTag × Nat × List LEv)) :
    disposeSys (disposeOrder stages tl bs) = sysList stages tl fun t => (findL bs t).map fun p => disposeSys p.2 := by
  rw [disposeSys_eq]
  unfold disposeOrder
  -- per system `t`: the `X` events of `inner` (a batch) are `disposeSys inner`, those of `[X t]` are `[t]`
  refine filterMap_order _ .X (fun _ => rfl) stages tl _ _ fun t => ?_
  cases findL bs t with
  | none => rfl
  | some p => exact (disposeSys_eq p.2).symm

/-- **C13 (dispose = setup, by nesting depth).** If for every batch the inner dispatcher's
dispose reaches the systems its setup reached, so does the outer one's. (Base: a dispatcher
without batches, `bs = []`.) -/
theorem C13_dispose_matches_setup (stages : Table (List SysTag)) (tl : List SysTag)
    (bs bd : List (SysTag × Nat × List LEv))
    (h : ∀ t, (findL bd t).map (fun p => disposeSys p.2) = (findL bs t).map (fun p => setupSys p.2)) :
    disposeSys (disposeOrder stages tl bd) = setupSys (setupOrder stages tl bs) := by
  rw [C13_setup_reaches, C13_dispose_reaches]
  congr 1
  funext t
  exact h t

/-- the controller data of every batch is set up where the batch sits in the layout -/
theorem C13_controller_data_setup (stages : Table (List SysTag)) (tl : List SysTag) (bs : List (SysTag × Nat × List LEv))
    (t : SysTag) (k : Nat) (inner : List LEv) (ht : t ∈ stages.flatten.flatten) (hb : findL bs t = some (k, inner)) :
    LEv.C t k ∈ setupOrder stages tl bs := by
  unfold setupOrder
  apply List.mem_append_left
  apply List.mem_flatMap.mpr
  exact ⟨t, ht, by rw [hb]; simp⟩

namespace Scenario
variable (sc : Scenario)

/-- **C13 (exactly once, any registration sequence without batches).** Every registered
system and every thread-local system has its `setup` hook called exactly once and is handed to
its `dispose` hook exactly once. -/
theorem C13_setup_dispose_once (x : SysTag) (hx : x < sc.final.n ∨ x ∈ sc.tl) :
    (setupSys (setupOrder sc.final.b.stages sc.tl [])).count x = 1 ∧
    (disposeSys (disposeOrder sc.final.b.stages sc.tl [])).count x = 1 := by
  have hmem : x ∈ sc.final.b.stages.flatten.flatten ++ sc.tl :=
    List.mem_append.mpr (hx.imp_left (sc.mem_stages x).mpr)
  have hone : (sc.final.b.stages.flatten.flatten ++ sc.tl).count x = 1 := by
    rw [List.Nodup.count sc.tags, if_pos hmem]
  have e := sysList_none sc.final.b.stages sc.tl
  rw [C13_setup_reaches, C13_dispose_reaches]
  exact ⟨e ▸ hone, e ▸ hone⟩

end Scenario

/-- **C13 (setup never clobbers).** -/
theorem C13_setup_preserves (evs : List LEv) (w : LWorld) (x : ResId) (v : Nat) (h : w.get? x = some v) :
    (setupWorld evs w).get? x = some v := by
  rw [setupWorld_eq]
  exact get?_foldl_orInsert _ w x v h

/-- **C13 (defaults exist afterwards).** -/
theorem C13_setup_creates (evs : List LEv) (w : LWorld) (t : SysTag) (k : Nat) (r : ResId)
    (he : LEv.C t k ∈ evs) (hr : r ∈ ctlCreates k) : (setupWorld evs w).has r = true :=
  (has_setupWorld evs w r).2 (.inr ⟨t, k, he, hr⟩)

/-- **C13 (nothing else is created)** — optional and expecting accessors create nothing. -/
theorem C13_setup_creates_only (evs : List LEv) (w : LWorld) (r : ResId) (h : (setupWorld evs w).has r = true) :
    w.has r = true ∨ ∃ t k, LEv.C t k ∈ evs ∧ r ∈ ctlCreates k :=
  (has_setupWorld evs w r).1 h

/-- **C13 (repeated setup).** -/
theorem C13_setup_idempotent (evs : List LEv) (w : LWorld) :
    setupWorld evs (setupWorld evs w) = setupWorld evs w :=
  setupWorld_id evs _ fun t k r => C13_setup_creates evs w t k r

/-- non-vacuity: a batch (kind 3) around one system, next to a plain system and a thread-local one -/
example : setupOrder [[[0], [1]]] [2] [(1, 3, [.S 5])] = [.S 0, .C 1 3, .S 5, .S 2] ∧
    disposeOrder [[[0], [1]]] [2] [(1, 3, [.X 5])] = [.X 0, .X 5, .X 2] ∧
    setupWorld [.S 0, .C 1 3, .S 5, .S 2] [(⟨0, 0⟩, 77)] = [(⟨0, 0⟩, 77), (⟨2, 0⟩, 0)] := by decide +kernel

end Shred

#print axioms Shred.C13_setup_reaches
#print axioms Shred.C13_dispose_reaches
#print axioms Shred.C13_dispose_matches_setup
#print axioms Shred.C13_controller_data_setup
#print axioms Shred.Scenario.C13_setup_dispose_once
#print axioms Shred.C13_setup_preserves
#print axioms Shred.C13_setup_creates
#print axioms Shred.C13_setup_creates_only
#print axioms Shred.C13_setup_idempotent
