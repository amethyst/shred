import ShredModel.Lemmas.MetaIter
/-!
# C17 — Meta table: exactly the registered types, once each, with the right vtable

Model: `Model/Meta.lean` (mirror of `src/meta.rs`, stable variant). `cast : CastFn` is the user's
`CastFrom` implementation (`cast r a` = the pointer — address *and* vtable — it returns for concrete
type `r` and address `a`) and is universally quantified everywhere: it covers implementors of every
size (zero-sized ones included: the model's check never looks at the size), alignment and drop glue,
generic ones, and wrong casts of every shape (an offset, another object of the same type, a static, a
field, an object of another type). The lawful implementation is `lawfulCast r a = ⟨a, r⟩`. `regs` is
an arbitrary history of `register` calls (repeats allowed); `firstOccs regs` is `regs` with only the
first occurrence of each type kept.
"Present" means present in the world under dynamic id 0, the only key the iterators look up.
-/
namespace Shred
namespace Meta
open MetaTable

/-- **MetaInv is invariant**: after any sequence of `register` calls (with repeats) on a fresh
table, `tys` is duplicate-free, `vtable_fns[i]` is the attach function of `tys[i]` (equal
lengths), `indices.len() = tys.len()` and `indices[ty] = i ↔ tys[i] = ty`. -/
theorem C17_inv (regs : List Nat) : MetaInv (({} : MetaTable).registerAll regs) :=
  MetaInv.empty.registerAll regs

/-- one more `register` (new type or repeat) on any table satisfying the invariant -/
theorem C17_inv_step {t : MetaTable} (h : MetaInv t) (ty : Nat) : MetaInv (t.register ty) :=
  h.register ty

/-- the indexing `self.vtable_fns[ind] = vtable_fn` in `register` cannot panic -/
theorem C17_register_in_bounds (regs : List Nat) (ty ind : Nat)
    (hl : lookup (({} : MetaTable).registerAll regs).indices ty = some ind) :
    ind < (({} : MetaTable).registerAll regs).vtableFns.length :=
  register_index_in_bounds (C17_inv regs) hl

/-- **First-registration order, once each**: the stored types are the registered ones, each at
the position of its first registration, however often it was registered. -/
theorem C17_tys_first_registration (regs : List Nat) :
    (({} : MetaTable).registerAll regs).tys = firstOccs regs :=
  registerAll_empty_tys regs

theorem C17_registered_iff (regs : List Nat) (ty : Nat) :
    ty ∈ (({} : MetaTable).registerAll regs).tys ↔ ty ∈ regs := by
  rw [C17_tys_first_registration, mem_firstOccs]

/-- registering again changes nothing at all -/
theorem C17_register_idem (regs : List Nat) (ty : Nat) (h : ty ∈ regs) :
    (({} : MetaTable).registerAll regs).register ty = ({} : MetaTable).registerAll regs :=
  register_of_mem (C17_inv regs) ((C17_registered_iff regs ty).mpr h)

example : (({} : MetaTable).registerAll [3, 1, 3, 2, 1, 3]).tys = [3, 1, 2] := by decide +kernel
example : (({} : MetaTable).registerAll [3, 1, 3, 2, 1, 3]).vtableFns = [3, 1, 2] := by decide +kernel
example : (({} : MetaTable).registerAll [3, 1, 3, 2, 1, 3]).indices = [(3, 0), (1, 1), (2, 2)] := by
  decide +kernel

/-- **get, completely**: on a resource of concrete type `r.ty` at address `r.addr`, `get` returns
`None` iff the type was never registered; otherwise it calls the `CastFrom` implementation of that
very type (no other) on that very address, returns what it produced if the address is unchanged,
and panics (before a reference is formed) if it is not. -/
theorem C17_get_spec (cast : CastFn) (regs : List Nat) (r : ResRef) :
    (({} : MetaTable).registerAll regs).get cast r =
      if r.ty ∈ regs then
        if (cast r.ty r.addr).addr = r.addr then .some (cast r.ty r.addr) else .panic .badCast
      else .none := by
  rw [get_eq (C17_inv regs)]
  simp only [C17_registered_iff]

/-- **get_some_iff**: `get` is `Some` exactly when the concrete type was registered (given a lawful
cast for it: the pointer it was given, with the vtable of the type it is the implementation for),
and then the result denotes that very resource: same address, vtable of the concrete type. -/
theorem C17_get_some_iff (cast : CastFn) (regs : List Nat) (r : ResRef)
    (hcast : cast r.ty r.addr = ⟨r.addr, r.ty⟩) (p : TraitPtr) :
    (({} : MetaTable).registerAll regs).get cast r = .some p ↔
      r.ty ∈ regs ∧ p = ⟨r.addr, r.ty⟩ := by
  rw [get_eq_some_iff (C17_inv regs), C17_registered_iff, hcast]
  exact and_congr_right fun _ => and_iff_right rfl

/-- **same address, whatever the cast**: for *every* `CastFrom` implementation — lawful or not,
for an implementor of any size — a reference that `get` / `get_mut` returns has the address of the
resource it was asked about, was produced by the cast of the resource's own type, and that type was
registered. (The vtable is the one the cast attached: the address check cannot see it. It is the
concrete type's own under the `# Safety` contract of `CastFrom`, see `C17_get_some_iff`.) -/
theorem C17_get_some_same_address (cast : CastFn) (regs : List Nat) (r : ResRef) (p : TraitPtr)
    (h : (({} : MetaTable).registerAll regs).get cast r = .some p ∨
         (({} : MetaTable).registerAll regs).getMut cast r = .some p) :
    r.ty ∈ regs ∧ p.addr = r.addr ∧ p = cast r.ty r.addr := by
  rw [getMut_eq_get, or_self, get_eq_some_iff (C17_inv regs), C17_registered_iff] at h
  exact ⟨h.1, h.2.2 ▸ h.2.1, h.2.2⟩

theorem C17_get_none_iff (cast : CastFn) (regs : List Nat) (r : ResRef) :
    (({} : MetaTable).registerAll regs).get cast r = .none ↔ r.ty ∉ regs := by
  rw [get_eq_none_iff (C17_inv regs), C17_registered_iff]

/-- `get_mut` computes the same pointer -/
theorem C17_getMut_spec (cast : CastFn) (regs : List Nat) (r : ResRef) :
    (({} : MetaTable).registerAll regs).getMut cast r =
      if r.ty ∈ regs then
        if (cast r.ty r.addr).addr = r.addr then .some (cast r.ty r.addr) else .panic .badCast
      else .none := by
  rw [getMut_eq_get]; exact C17_get_spec cast regs r

/-- **bad_cast_panics (get)**: a `CastFrom` that changes the address of a registered type —
whatever it points at instead and whatever vtable it carries — makes `get` / `get_mut` panic; no
reference is produced. -/
theorem C17_bad_cast_panics_get (cast : CastFn) (regs : List Nat) (r : ResRef)
    (hreg : r.ty ∈ regs) (hbad : (cast r.ty r.addr).addr ≠ r.addr) :
    (({} : MetaTable).registerAll regs).get cast r = .panic .badCast ∧
    (({} : MetaTable).registerAll regs).getMut cast r = .panic .badCast := by
  rw [C17_getMut_spec, C17_get_spec]
  simp [hreg, hbad]

/-- **The check happens at every use, never at registration.** `register` does not take the cast
(the stable `register`, l.367-390, only stores the function pointer), so a table is built the same
way whatever the `CastFrom` implementations are and registration cannot reject one; and the table
keeps no memory of earlier checks: on the same table, the same resource is converted while its
cast behaves (`castA`) and rejected by a panic as soon as it does not (`castB`), in either order. -/
theorem C17_check_at_every_use (castA castB : CastFn) (regs : List Nat) (r : ResRef)
    (hreg : r.ty ∈ regs) (hA : castA r.ty r.addr = ⟨r.addr, r.ty⟩)
    (hB : (castB r.ty r.addr).addr ≠ r.addr) :
    let t := ({} : MetaTable).registerAll regs
    t.get castA r = .some ⟨r.addr, r.ty⟩ ∧ t.getMut castA r = .some ⟨r.addr, r.ty⟩ ∧
    t.get castB r = .panic .badCast ∧ t.getMut castB r = .panic .badCast := by
  intro t
  have h1 := (C17_get_some_iff castA regs r hA ⟨r.addr, r.ty⟩).mpr ⟨hreg, rfl⟩
  have h2 := C17_bad_cast_panics_get castB regs r hreg hB
  exact ⟨h1, h1, h2.1, h2.2⟩

/-- an address-preserving cast that attaches another type's vtable (a pointer to the first field,
another zero-sized type at the same dangling address) passes the check: the code returns it -/
theorem C17_get_same_address_other_vtable (cast : CastFn) (regs : List Nat) (r : ResRef) (v : Nat)
    (hreg : r.ty ∈ regs) (hc : cast r.ty r.addr = ⟨r.addr, v⟩) :
    (({} : MetaTable).registerAll regs).get cast r = .some ⟨r.addr, v⟩ := by
  rw [C17_get_spec, if_pos hreg, hc, if_pos rfl]

-- registered, good cast: found, same address, own vtable
example : (({} : MetaTable).registerAll [3, 1, 3]).get lawfulCast ⟨1, 4096⟩ = .some ⟨4096, 1⟩ := by
  decide +kernel
-- never registered
example : (({} : MetaTable).registerAll [3, 1, 3]).get lawfulCast ⟨2, 4096⟩ = .none := by decide +kernel
-- the cast of type 3 moves the pointer (by an offset; to a decoy of type 9 somewhere else)
example : (({} : MetaTable).registerAll [3, 1, 3]).get (fun ty a => if ty = 3 then ⟨a + 8, ty⟩ else ⟨a, ty⟩)
    ⟨3, 4096⟩ = .panic .badCast := by decide +kernel
example : (({} : MetaTable).registerAll [3, 1, 3]).get (fun ty a => if ty = 3 then ⟨777, 9⟩ else ⟨a, ty⟩)
    ⟨3, 4096⟩ = .panic .badCast := by decide +kernel
-- a zero-sized implementor lives at the dangling address `align_of` (here 1): nothing special
example : (({} : MetaTable).registerAll [3, 1, 3]).get (fun ty a => if ty = 3 then ⟨777, 9⟩ else ⟨a, ty⟩)
    ⟨3, 1⟩ = .panic .badCast := by decide +kernel
-- the hypotheses of `C17_check_at_every_use` / `C17_get_same_address_other_vtable` are satisfiable
example : (3 ∈ [3, 1, 3]) ∧ lawfulCast 3 4096 = ⟨4096, 3⟩ ∧
    ((fun _ _ => ⟨777, 9⟩ : CastFn) 3 4096).addr ≠ 4096 := by decide +kernel
example : (({} : MetaTable).registerAll [3, 1, 3]).get (fun _ a => ⟨a, 9⟩) ⟨3, 4096⟩ = .some ⟨4096, 9⟩ := by
  decide +kernel

/-- **next, completely** (any table reachable by `register`s, any world, any position, `iter`
(`excl = false`) and `iter_mut` (`excl = true`)): either no registered type from the current
position on is present — the call returns `None` and changes nothing — or `ty` is the first one
present (`pre` = the absent ones skipped), `c` its cell, and the call

* panics with the cell's borrow error and changes nothing if the cell cannot be borrowed in the
  requested way (C08 rules: shared needs "not exclusively borrowed", exclusive needs "free"),
* panics with the `CastFrom` bug message, the cell left as it was, if the cast of `ty` (no other
  type's) moves the address,
* otherwise yields the pointer that cast produced (address of the resource; the vtable of `ty` for a
  lawful cast) and the cell is borrowed once more — shared for `iter`, exclusively for `iter_mut`;

in all three cases the position moves just past `ty`. -/
theorem C17_next_spec (cast : CastFn) (regs : List Nat) (w : MWorld) (i : Nat) (excl : Bool) :
    let t := ({} : MetaTable).registerAll regs
    ((∀ x ∈ t.tys.drop i, w.cell x = none) ∧
      t.next cast w ⟨i, excl⟩ = (w, ⟨i + (t.tys.drop i).length, excl⟩, .none)) ∨
    ∃ pre ty rest c, t.tys.drop i = pre ++ ty :: rest ∧ (∀ x ∈ pre, w.cell x = none) ∧
      w.cell ty = some c ∧
      t.next cast w ⟨i, excl⟩ =
        match Shred.tryBorrow c.borrow excl with
        | none => (w, ⟨i + pre.length + 1, excl⟩, .panic .borrowed)
        | some b' =>
          if (cast ty c.addr).addr = c.addr then
            (w.set ty (some { c with borrow := b' }), ⟨i + pre.length + 1, excl⟩, .item (cast ty c.addr))
          else (w, ⟨i + pre.length + 1, excl⟩, .panic .badCast) := by
  intro t
  cases hL : remaining t w i with
  | nil => exact Or.inl ⟨remaining_nil hL, next_miss cast excl (remaining_nil hL)⟩
  | cons ty L' =>
    obtain ⟨pre, rest, c, hd, hpre, hc, _⟩ := remaining_cons hL
    exact Or.inr ⟨pre, ty, rest, c, hd, hpre, hc, next_hit cast excl (C17_inv regs).vt hd hpre hc⟩

/-- the indexing `self.vtable_fns[index]` in `next` cannot panic -/
theorem C17_next_in_bounds (cast : CastFn) (regs : List Nat) (w : MWorld) (i : Nat) (excl : Bool) :
    ((({} : MetaTable).registerAll regs).next cast w ⟨i, excl⟩).2.2 ≠ .panic .index := by
  rcases C17_next_spec cast regs w i excl with ⟨_, h⟩ | ⟨pre, ty, rest, c, _, _, _, h⟩
  · rw [h]; simp
  · rw [h]
    cases Shred.tryBorrow c.borrow excl with
    | none => simp
    | some b' =>
      by_cases hcast : (cast ty c.addr).addr = c.addr <;> simp [hcast]

/-- **same address, whatever the cast (next)**: for *every* `CastFrom` implementation, an item that
`next` yields has the address of a present resource of a registered type, was produced by the
cast of that resource's own type, and it is that resource's cell — no other — that got borrowed. -/
theorem C17_next_item_same_address (cast : CastFn) (regs : List Nat) (w : MWorld) (i : Nat)
    (excl : Bool) (w' : MWorld) (it' : MIter) (p : TraitPtr)
    (h : (({} : MetaTable).registerAll regs).next cast w ⟨i, excl⟩ = (w', it', .item p)) :
    ∃ ty c b', ty ∈ regs ∧ w.cell ty = some c ∧ p = cast ty c.addr ∧ p.addr = c.addr ∧
      Shred.tryBorrow c.borrow excl = some b' ∧ w' = w.set ty (some { c with borrow := b' }) := by
  rcases C17_next_spec cast regs w i excl with ⟨_, hn⟩ | ⟨pre, ty, rest, c, hd, _, hc, hn⟩
  · rw [hn] at h; cases h
  · have hmem : ty ∈ regs := (C17_registered_iff regs ty).mp
      (List.mem_of_mem_drop (hd ▸ List.mem_append_right _ List.mem_cons_self))
    rw [hn] at h
    -- of the three ways the call can end at `ty`, one yields an item
    split at h
    · cases h
    · next b' hb =>
      split at h
      · next hcast => cases h; exact ⟨ty, c, b', hmem, hc, rfl, hcast, hb, rfl⟩
      · cases h

/-- **bad_cast_panics (next)**: if the first present registered type from the current position
has a cast that moves the address (and its cell could be borrowed), `next` panics with the
`CastFrom` message and the world — in particular the borrow flag of that cell — is unchanged. -/
theorem C17_bad_cast_panics_next (cast : CastFn) (regs : List Nat) (w : MWorld) (i : Nat)
    (excl : Bool) (pre : List Nat) (ty : Nat) (rest : List Nat) (c : MCell)
    (hd : (({} : MetaTable).registerAll regs).tys.drop i = pre ++ ty :: rest)
    (hpre : ∀ x ∈ pre, w.cell x = none) (hc : w.cell ty = some c)
    (hb : (Shred.tryBorrow c.borrow excl).isSome) (hbad : (cast ty c.addr).addr ≠ c.addr) :
    (({} : MetaTable).registerAll regs).next cast w ⟨i, excl⟩ =
      (w, ⟨i + pre.length + 1, excl⟩, .panic .badCast) := by
  obtain ⟨b', hb'⟩ := Option.isSome_iff_exists.mp hb
  rw [next_hit cast excl (C17_inv regs).vt hd hpre hc, hb']
  exact if_neg hbad

/-- **Borrow rules**: `next` on a cell that is exclusively borrowed (`iter`), or borrowed in any
way (`iter_mut`), panics and leaves the world as it was. -/
theorem C17_next_conflict_panics (cast : CastFn) (regs : List Nat) (w : MWorld) (i : Nat)
    (excl : Bool) (pre : List Nat) (ty : Nat) (rest : List Nat) (c : MCell)
    (hd : (({} : MetaTable).registerAll regs).tys.drop i = pre ++ ty :: rest)
    (hpre : ∀ x ∈ pre, w.cell x = none) (hc : w.cell ty = some c)
    (hconf : c.borrow = .excl ∨ (excl = true ∧ c.borrow ≠ .free)) :
    (({} : MetaTable).registerAll regs).next cast w ⟨i, excl⟩ =
      (w, ⟨i + pre.length + 1, excl⟩, .panic .borrowed) := by
  have : Shred.tryBorrow c.borrow excl = none := by
    rcases hconf with h | ⟨rfl, h⟩
    · rw [h]; cases excl <;> rfl
    · cases hb : c.borrow with
      | free => exact absurd hb h
      | shared n | excl => rfl
  rw [next_hit cast excl (C17_inv regs).vt hd hpre hc, this]

/-- the kind of borrow: `iter` takes one more shared borrow, `iter_mut` the exclusive one -/
theorem C17_borrow_kind (b b' : Borrow) :
    (Shred.tryBorrow b false = some b' ↔
      (b = .free ∧ b' = .shared 1) ∨ ∃ n, b = .shared n ∧ b' = .shared (n + 1)) ∧
    (Shred.tryBorrow b true = some b' ↔ b = .free ∧ b' = .excl) := by
  cases b <;> simp [Shred.tryBorrow, eq_comm]

/-- dropping the item gives the borrow back: the cell returns to its previous state -/
theorem C17_release_item (w : MWorld) (ty : Nat) (c : MCell) (excl : Bool) (b' : Borrow)
    (hc : w.cell ty = some c) (hwf : c.borrow ≠ .shared 0)
    (hb : Shred.tryBorrow c.borrow excl = some b') (k : Nat) :
    ((w.set ty (some { c with borrow := b' })).release ty).cell k = w.cell k := by
  rw [MWorld.release_cell, MWorld.set_cell, MWorld.set_cell, if_pos rfl]
  by_cases hk : k = ty
  · rw [if_pos hk, hk, hc]
    simp [releaseBorrow_tryBorrow hb hwf]
  · rw [if_neg hk, if_neg hk]

/-- **iter_spec, any address-preserving cast.** Let any history of `register` calls build the
table, and let the world be such that every registered resource that is present can be borrowed in
the iterator's way (e.g. no guard alive) and has an address-preserving cast (whatever vtable it
attaches). Then running the iterator to the end ends with `None` — no panic — and

* the items are, in this order, what the casts of the first occurrences in `regs` of the types that
  are present produce on the addresses of their resources: each registered present type exactly once,
  none else, in first-registration order;
* every item has the address of the resource it was made from;
* afterwards exactly the cells of the registered present types carry one more borrow of the
  iterator's kind (shared for `iter`, exclusive for `iter_mut`), every other cell is untouched. -/
theorem C17_iter_spec_any_vtable (cast : CastFn) (regs : List Nat) (w : MWorld) (excl : Bool)
    (hok : ∀ ty ∈ regs, ∀ c, w.cell ty = some c →
      (Shred.tryBorrow c.borrow excl).isSome ∧ (cast ty c.addr).addr = c.addr) :
    let t := ({} : MetaTable).registerAll regs
    let r := t.collect cast w (t.iter excl)
    r.panic = none ∧
    r.items = ((firstOccs regs).filter w.present).map (fun ty => cast ty (addrOf w ty)) ∧
    r.items.map (·.addr) = ((firstOccs regs).filter w.present).map (addrOf w) ∧
    (∀ k, r.world.cell k =
      if k ∈ regs then (w.cell k).map (borrowCell excl) else w.cell k) := by
  intro t r
  have hok' : Borrowable cast t.tys w excl := fun ty hty => hok ty ((C17_registered_iff regs ty).mp hty)
  have hs : DInv t excl w w 0 [] ((firstOccs regs).filter w.present) :=
    DInv.start (remaining_registerAll regs w 0)
  obtain ⟨w', i', he, hd⟩ := collectN_drive (acc := []) (C17_inv regs) hok' hs (hs.sel_length_lt .plain)
  rw [show r = _ from he]
  refine ⟨rfl, rfl, ?_, fun k => ?_⟩
  · simp only [List.nil_append, List.map_map]
    apply List.map_congr_left
    intro ty hty
    obtain ⟨hmem, hpres⟩ := List.mem_filter.mp hty
    exact Borrowable.addr_eq hok ((mem_firstOccs regs ty).mp hmem) hpres
  · rw [hd.cells k]
    cases hc : w.cell k <;> simp [mem_firstOccs, MWorld.present, hc]

/-- **iter_spec.** Let any history of `register` calls build the table, and let the world be such
that every registered resource that is present can be borrowed in the iterator's way (e.g. no
guard alive) and has a lawful cast (same address, vtable of the type it is the implementation
for). Then running the iterator to the end
(`for x in table.iter(&world)` keeping the items) ends with `None` — no panic — and

* the items are, in this order, the first occurrences in `regs` of the types that are present:
  each registered present type exactly once, none else, in first-registration order;
* every item has the address of the resource of its type and the vtable of that type;
* afterwards exactly the cells of the registered present types carry one more borrow of the
  iterator's kind (shared for `iter`, exclusive for `iter_mut`), every other cell is untouched. -/
theorem C17_iter_spec (cast : CastFn) (regs : List Nat) (w : MWorld) (excl : Bool)
    (hok : ∀ ty ∈ regs, ∀ c, w.cell ty = some c →
      (Shred.tryBorrow c.borrow excl).isSome ∧ cast ty c.addr = ⟨c.addr, ty⟩) :
    let t := ({} : MetaTable).registerAll regs
    let r := t.collect cast w (t.iter excl)
    r.panic = none ∧
    r.items.map (·.vtable) = (firstOccs regs).filter w.present ∧
    (∀ p ∈ r.items, p.addr = addrOf w p.vtable) ∧
    (∀ k, r.world.cell k =
      if k ∈ regs then (w.cell k).map (borrowCell excl) else w.cell k) := by
  intro t r
  obtain ⟨h1, h2, _, h4⟩ := C17_iter_spec_any_vtable cast regs w excl
    fun ty hty c hc => ⟨(hok ty hty c hc).1, by rw [(hok ty hty c hc).2]⟩
  have hitems : r.items = ((firstOccs regs).filter w.present).map (fun ty => ⟨addrOf w ty, ty⟩) := by
    rw [h2]
    apply List.map_congr_left
    intro ty hty
    obtain ⟨hmem, hpres⟩ := List.mem_filter.mp hty
    obtain ⟨c, hc⟩ := Option.isSome_iff_exists.mp hpres
    simp [addrOf, hc, (hok ty ((mem_firstOccs regs ty).mp hmem) c hc).2]
  refine ⟨h1, ?_, ?_, h4⟩
  · rw [hitems]; simp [List.map_map, Function.comp_def]
  · intro p hp
    rw [hitems] at hp
    obtain ⟨ty, _, rfl⟩ := List.mem_map.mp hp
    rfl

/-- once each, whatever the number of registrations -/
theorem C17_iter_once_each (cast : CastFn) (regs : List Nat) (w : MWorld) (excl : Bool)
    (hok : ∀ ty ∈ regs, ∀ c, w.cell ty = some c →
      (Shred.tryBorrow c.borrow excl).isSome ∧ cast ty c.addr = ⟨c.addr, ty⟩) :
    let t := ({} : MetaTable).registerAll regs
    ((t.collect cast w (t.iter excl)).items.map (·.vtable)).Nodup ∧
    ∀ ty, ty ∈ (t.collect cast w (t.iter excl)).items.map (·.vtable) ↔
      ty ∈ regs ∧ w.present ty = true := by
  intro t
  have := (C17_iter_spec cast regs w excl hok).2.1
  rw [this]
  refine ⟨(nodup_firstOccs regs).filter _, ?_⟩
  intro ty
  simp [List.mem_filter, mem_firstOccs]

/-- the special case of the statement: a world without live guards, a correct `CastFrom` -/
theorem C17_iter_free_world (regs : List Nat) (w : MWorld) (excl : Bool)
    (hfree : ∀ ty c, w.cell ty = some c → c.borrow = .free) :
    let t := ({} : MetaTable).registerAll regs
    let r := t.collect lawfulCast w (t.iter excl)
    r.panic = none ∧ r.items.map (·.vtable) = (firstOccs regs).filter w.present ∧
    (∀ p ∈ r.items, p.addr = addrOf w p.vtable) ∧
    ∀ k c, w.cell k = some c → r.world.cell k =
      some { c with borrow := if k ∈ regs then (if excl then .excl else .shared 1) else .free } := by
  intro t r
  obtain ⟨h1, h2, h3, h4⟩ := C17_iter_spec lawfulCast regs w excl fun ty _ c hc => by
    rw [hfree ty c hc]
    cases excl <;> exact ⟨rfl, rfl⟩
  refine ⟨h1, h2, h3, fun k c hc => ?_⟩
  rw [h4 k, hc]
  obtain ⟨a, b⟩ := c
  obtain rfl : b = .free := hfree k _ hc
  by_cases hk : k ∈ regs
  · rw [if_pos hk, if_pos hk]
    cases excl <;> rfl
  · rw [if_neg hk, if_neg hk]

/-- the number of `next` calls the model's `collect` allows is never the reason it stops -/
theorem C17_collect_fuel (cast : CastFn) (t : MetaTable) (w : MWorld) (excl : Bool) (i : Nat) :
    collectN cast t excl (t.tys.length + 2) w i [] = t.collect cast w ⟨i, excl⟩ :=
  collect_fuel cast t excl (t.tys.length + 1) w i [] (by omega)

/-- types 3, 1, 2 registered (3 three times, 1 twice); 1, 2 and the unregistered 7 present -/
def exWorld : MWorld := ((MWorld.empty.insert 1 100).insert 2 200).insert 7 700

theorem exWorld_free (ty : Nat) (c : MCell) (hc : exWorld.cell ty = some c) : c.borrow = .free :=
  MWorld.insert_free (MWorld.insert_free (MWorld.insert_free (fun _ _ h => by cases h) 1 100) 2 200)
    7 700 ty c hc

example : ∀ ty ∈ [3, 1, 3, 2, 1, 3], ∀ c, exWorld.cell ty = some c →
    (Shred.tryBorrow c.borrow false).isSome ∧ lawfulCast ty c.addr = ⟨c.addr, ty⟩ :=
  fun ty _ c hc => ⟨by rw [exWorld_free ty c hc]; rfl, rfl⟩

example :
    let t := ({} : MetaTable).registerAll [3, 1, 3, 2, 1, 3]
    (t.collect lawfulCast exWorld (t.iter false)).items = [⟨100, 1⟩, ⟨200, 2⟩] ∧
    (t.collect lawfulCast exWorld (t.iter false)).panic = none ∧
    ((t.collect lawfulCast exWorld (t.iter true)).world.cell 2) = some ⟨200, .excl⟩ ∧
    ((t.collect lawfulCast exWorld (t.iter true)).world.cell 7) = some ⟨700, .free⟩ := by
  decide +kernel

-- a fetched (shared) resource: `iter` passes, `iter_mut` panics at it, a wrong cast panics
example :
    let t := ({} : MetaTable).registerAll [3, 1, 3, 2, 1, 3]
    let w := (exWorld.acquire 2 false).1
    (t.collect lawfulCast w (t.iter false)).items = [⟨100, 1⟩, ⟨200, 2⟩] ∧
    (t.collect lawfulCast w (t.iter true)).items = [⟨100, 1⟩] ∧
    (t.collect lawfulCast w (t.iter true)).panic = some .borrowed ∧
    (t.collect (fun ty a => if ty = 1 then ⟨a + 8, ty⟩ else ⟨a, ty⟩) w (t.iter false)).panic = some .badCast ∧
    (t.collect (fun ty a => if ty = 1 then ⟨a + 8, ty⟩ else ⟨a, ty⟩) w (t.iter false)).items = [] := by
  decide +kernel

/-! ## The provided `Iterator` methods (`nth`, `skip`, `step_by`, `take`, `last`, `count`, `fold`, `for_each`, `collect`, `size_hint`)

`MetaIter` / `MetaIterMut` implement `next` only, so every other method is the default of
`core::iter::Iterator`, defined from `next` (`Model/Meta.lean`: `advanceBy`, `nth`, `adNext`,
`collectVia`, `lastVia`, `countVia`). Below, `L = ((firstOccs regs).drop i).filter w.present` is
the list of registered types from the cursor `i` on that are present, in first-registration order,
once each; `Usable` (`Lemmas/MetaIter.lean`) says that every registered present resource can be
borrowed in the iterator's way (e.g. no conflicting guard alive), has an address-preserving cast and
a well-formed flag. -/

theorem C17_usable_drivable {cast : CastFn} {regs : List Nat} {w : MWorld} {excl : Bool}
    (h : Usable cast regs w excl) : Usable cast (({} : MetaTable).registerAll regs).tys w excl :=
  fun ty hty c hc => h ty ((C17_registered_iff regs ty).mp hty) c hc

/-- a world without live guards is usable by both iterators under every address-preserving cast -/
theorem C17_usable_free (cast : CastFn) (regs : List Nat) (w : MWorld) (excl : Bool)
    (hfree : ∀ ty c, w.cell ty = some c → c.borrow = .free)
    (hcast : ∀ ty c, w.cell ty = some c → (cast ty c.addr).addr = c.addr) :
    Usable cast regs w excl := by
  intro ty _ c hc
  rw [hfree ty c hc]
  exact ⟨by cases excl <;> rfl, hcast ty c hc, by simp⟩

theorem C17_nth_zero (cast : CastFn) (t : MetaTable) (w : MWorld) (it : MIter) :
    t.nth cast w it 0 = t.next cast w it := rfl

/-- **`nth(n)` is the `n`-th registered-and-present type from the cursor** (counting from 0), for
`iter` and `iter_mut`, from any cursor position `i`, after any history of registrations: it yields
the resource of `L[n]` (the pointer its own cast produced: the resource's address), only that cell
is borrowed afterwards — the `n` items dropped on the way gave their borrows back — and the
iterator goes on with `L[n+1..]`; if fewer than `n + 1` such types are left the answer is `None`,
no cell is changed and nothing is left. -/
theorem C17_nth_spec (cast : CastFn) (regs : List Nat) (w : MWorld) (i : Nat) (excl : Bool) (n : Nat)
    (hok : Usable cast regs w excl) :
    let t := ({} : MetaTable).registerAll regs
    let L := ((firstOccs regs).drop i).filter w.present
    match L[n]? with
    | some ty =>
      ∃ w' i', t.nth cast w ⟨i, excl⟩ n = (w', ⟨i', excl⟩, .item (cast ty (addrOf w ty))) ∧
        (cast ty (addrOf w ty)).addr = addrOf w ty ∧ ty ∈ regs ∧ w.present ty = true ∧
        ((firstOccs regs).drop i').filter w.present = L.drop (n + 1) ∧
        ∀ k, w'.cell k = if k = ty then (w.cell k).map (borrowCell excl) else w.cell k
    | none =>
      ∃ w' i', t.nth cast w ⟨i, excl⟩ n = (w', ⟨i', excl⟩, .none) ∧
        ((firstOccs regs).drop i').filter w.present = [] ∧ ∀ k, w'.cell k = w.cell k := by
  intro t L
  have hdrv := C17_usable_drivable hok
  have hd : DInv t excl w w i [] L := DInv.start (remaining_registerAll regs w i)
  cases h : L[n]? with
  | none =>
    obtain ⟨w', i', h1, h2⟩ := nth_drive_nil (cast := cast) (C17_inv regs) hdrv hd
      (List.drop_eq_nil_of_le (List.getElem?_eq_none_iff.mp h))
    exact ⟨w', i', h1, remaining_registerAll regs w i' ▸ h2.rem, fun k => by simp [h2.cells k]⟩
  | some ty =>
    obtain ⟨hlt, rfl⟩ := List.getElem?_eq_some_iff.mp h
    obtain ⟨w', i', h1, _, h2, _⟩ := nth_drive_cons (C17_inv regs) hdrv hd
      (List.drop_eq_getElem_cons hlt)
    obtain ⟨hmem, hpres⟩ := List.mem_filter.mp (List.getElem_mem hlt)
    have hreg := (mem_firstOccs regs _).mp (List.mem_of_mem_drop hmem)
    exact ⟨w', i', h1, hok.borrowable.addr_eq hreg hpres, hreg, hpres,
      remaining_registerAll regs w i' ▸ h2.rem, fun k => by simp [h2.cells k]⟩

/-- the same for lawful casts on a world without live guards (the statement's setting): the item
`nth(n)` yields has the address of the resource of the `n`-th registered-and-present type and the
methods of that type -/
theorem C17_nth_kth_present (regs : List Nat) (w : MWorld) (excl : Bool) (n : Nat)
    (hfree : ∀ ty c, w.cell ty = some c → c.borrow = .free) :
    let t := ({} : MetaTable).registerAll regs
    (t.nth lawfulCast w (t.iter excl) n).2.2 =
      match ((firstOccs regs).filter w.present)[n]? with
      | some ty => .item ⟨addrOf w ty, ty⟩
      | none => .none := by
  intro t
  have := C17_nth_spec lawfulCast regs w 0 excl n
    (C17_usable_free lawfulCast regs w excl hfree fun _ _ _ => rfl)
  simp only [List.drop_zero] at this
  -- in either case the first conjunct is the answer
  cases h : ((firstOccs regs).filter w.present)[n]? with
  | none | some ty =>
    rw [h] at this
    obtain ⟨_, _, h1, _⟩ := this
    exact congrArg (·.2.2) h1

/-- the default `nth` calls `next` for the elements it drops too: if the first registered present
type from the cursor cannot be borrowed in the iterator's way, `nth(n)` panics there for every `n`
and leaves the world as it was -/
theorem C17_nth_conflict_panics (cast : CastFn) (regs : List Nat) (w : MWorld) (i : Nat)
    (excl : Bool) (pre : List Nat) (ty : Nat) (rest : List Nat) (c : MCell) (n : Nat)
    (hd : (({} : MetaTable).registerAll regs).tys.drop i = pre ++ ty :: rest)
    (hpre : ∀ x ∈ pre, w.cell x = none) (hc : w.cell ty = some c)
    (hconf : c.borrow = .excl ∨ (excl = true ∧ c.borrow ≠ .free)) :
    (({} : MetaTable).registerAll regs).nth cast w ⟨i, excl⟩ n =
      (w, ⟨i + pre.length + 1, excl⟩, .panic .borrowed) := by
  have h := C17_next_conflict_panics cast regs w i excl pre ty rest c hd hpre hc hconf
  cases n with
  | zero => exact h
  | succ n => simp only [MetaTable.nth, advanceBy, h]

/-- **Whole iterations through an adapter** (`ad` = the iterator itself / `skip(n)` / `step_by(s)`
/ `take(n)`, on the iterator or on `by_ref()` of it), consumed by `collect` / `for_each` / `fold`
keeping every item: no panic; the items are, in order, the resources of `sel ad L` — all of `L`,
`L` without its first `n`, the first and then every `s`-th of `L`, the first `n` of `L` —, each the
pointer its own cast produced on the resource's address; exactly their cells carry one more borrow
of the iterator's kind (the items dropped on the way gave theirs back); and the iterator is left
with `adRest ad L` (nothing, or `L` without its first `n` after `take(n)`). -/
theorem C17_collect_via_spec (cast : CastFn) (regs : List Nat) (w : MWorld) (i : Nat) (excl : Bool)
    (ad : Adapter) (hok : Usable cast regs w excl) :
    let t := ({} : MetaTable).registerAll regs
    let L := ((firstOccs regs).drop i).filter w.present
    let r := collectVia cast t excl (t.tys.length + 1) ad w i []
    r.panic = none ∧
    r.kept = (sel ad L).map (fun ty => (ty, cast ty (addrOf w ty))) ∧
    (∀ e ∈ r.kept, e.2.addr = addrOf w e.1) ∧
    r.seen = (sel ad L).length ∧
    (∀ k, r.world.cell k = if k ∈ sel ad L then (w.cell k).map (borrowCell excl) else w.cell k) ∧
    ((firstOccs regs).drop r.index).filter w.present = adRest ad L := by
  intro t L r
  have hs : DInv t excl w w i [] L := DInv.start (remaining_registerAll regs w i)
  obtain ⟨w', i', he, hd⟩ := collectVia_drive (kept := []) (C17_inv regs) (C17_usable_drivable hok)
    hs rfl (hs.sel_length_lt ad)
  rw [show r = _ from he]
  refine ⟨rfl, rfl, ?_, by simp [L], fun k => by rw [hd.cells k]; rfl,
    remaining_registerAll regs w i' ▸ hd.rem⟩
  intro e he
  obtain ⟨ty, hty, rfl⟩ := List.mem_map.mp he
  obtain ⟨hmem, hpres⟩ := List.mem_filter.mp ((sel_sublist ad L).subset hty)
  exact hok.borrowable.addr_eq ((mem_firstOccs regs ty).mp (List.mem_of_mem_drop hmem)) hpres

/-- `skip(n)`: `L` without its first `n` -/
theorem C17_skip_spec (L : List Nat) (n : Nat) : sel (.skip n) L = L.drop n := rfl

/-- `take(n)`: the first `n` of `L`; the iterator is left with the others -/
theorem C17_take_spec (L : List Nat) (n : Nat) :
    sel (.take n) L = L.take n ∧ adRest (.take n) L = L.drop n := ⟨rfl, rfl⟩

/-- `step_by(s + 1)`: the first of `L`, then every `(s + 1)`-th -/
theorem C17_step_by_spec (L : List Nat) (s : Nat) :
    sel (.stepBy s true) L = stepSel s 0 L ∧
    (∀ x xs, stepSel s 0 (x :: xs) = x :: stepSel s 0 (xs.drop s)) ∧ stepSel s 0 [] = [] := by
  refine ⟨rfl, ?_, rfl⟩
  intro x xs
  show x :: stepSel s s xs = _
  rw [stepSel_drop]

/-- **`last()`** through an adapter: no panic; the item alive afterwards is the resource of the
last type of `sel ad L` (`None` if there is none); only its cell is borrowed — every other item
was dropped on the way. -/
theorem C17_last_spec (cast : CastFn) (regs : List Nat) (w : MWorld) (i : Nat) (excl : Bool)
    (ad : Adapter) (hok : Usable cast regs w excl) :
    let t := ({} : MetaTable).registerAll regs
    let L := ((firstOccs regs).drop i).filter w.present
    let r := lastVia cast t excl (t.tys.length + 1) ad w i none 0
    r.panic = none ∧
    r.kept = ((sel ad L).getLast?.map (fun ty => (ty, cast ty (addrOf w ty)))).toList ∧
    r.seen = (sel ad L).length ∧
    (∀ k, r.world.cell k =
      if (sel ad L).getLast? = some k then (w.cell k).map (borrowCell excl) else w.cell k) := by
  intro t L r
  have hs : DInv t excl w w i [] L := DInv.start (remaining_registerAll regs w i)
  obtain ⟨w', i', he, hd⟩ := lastVia_drive (prev := none) (seen := 0) (C17_inv regs)
    (C17_usable_drivable hok) hs rfl (hs.sel_length_lt ad)
  -- no item is alive at the start: `x <|> none` is `x`
  simp only [Option.orElse_eq_orElse, Option.orElse_eq_or, Option.or_none] at he hd
  rw [show r = _ from he]
  refine ⟨rfl, rfl, Nat.zero_add _, fun k => ?_⟩
  rw [hd.cells k]
  cases (sel ad L).getLast? <;> simp [eq_comm]

/-- **`count()`** through an adapter: no panic; the number of types in `sel ad L`; no item is
alive and every cell is as before. -/
theorem C17_count_spec (cast : CastFn) (regs : List Nat) (w : MWorld) (i : Nat) (excl : Bool)
    (ad : Adapter) (hok : Usable cast regs w excl) :
    let t := ({} : MetaTable).registerAll regs
    let L := ((firstOccs regs).drop i).filter w.present
    let r := countVia cast t excl (t.tys.length + 1) ad w i 0
    r.panic = none ∧ r.kept = [] ∧ r.seen = (sel ad L).length ∧ ∀ k, r.world.cell k = w.cell k := by
  intro t L r
  have hs : DInv t excl w w i [] L := DInv.start (remaining_registerAll regs w i)
  obtain ⟨w', i', he, hd⟩ := countVia_drive (seen := 0) (C17_inv regs) (C17_usable_drivable hok)
    hs rfl (hs.sel_length_lt ad)
  rw [show r = _ from he]
  exact ⟨rfl, rfl, Nat.zero_add _, fun k => by simp [hd.cells k]⟩

/-- **`size_hint`** (the default, `(0, None)`) is a valid bound for any number of items that
follow -/
theorem C17_size_hint_valid (t : MetaTable) (it : MIter) (n : Nat) :
    (t.sizeHint it).1 ≤ n ∧ ∀ h, (t.sizeHint it).2 = some h → n ≤ h := by
  refine ⟨Nat.zero_le n, ?_⟩
  intro h hh
  cases hh

example : Usable lawfulCast [3, 1, 3, 2, 1, 3] exWorld false ∧ Usable lawfulCast [3, 1, 3, 2, 1, 3] exWorld true :=
  ⟨C17_usable_free _ _ _ _ exWorld_free fun _ _ _ => rfl, C17_usable_free _ _ _ _ exWorld_free fun _ _ _ => rfl⟩

-- types 3, 1, 2, 5, 7 registered (first-registration order), 1, 2 and 7 present: L = [1, 2, 7]
example :
    let t := ({} : MetaTable).registerAll [3, 1, 3, 2, 5, 1, 7]
    -- nth(1) is the second registered-and-present type, not the second registered one; only its
    -- cell is borrowed; then the iterator goes on behind it
    (t.nth lawfulCast exWorld (t.iter false) 1).2.2 = .item ⟨200, 2⟩ ∧
    (t.nth lawfulCast exWorld (t.iter true) 1).1.cell 1 = some ⟨100, .free⟩ ∧
    (t.nth lawfulCast exWorld (t.iter true) 1).1.cell 2 = some ⟨200, .excl⟩ ∧
    (t.nth lawfulCast exWorld (t.iter false) 2).2.2 = .item ⟨700, 7⟩ ∧
    (t.nth lawfulCast exWorld (t.iter false) 3).2.2 = .none ∧
    (t.next lawfulCast exWorld (t.nth lawfulCast exWorld (t.iter false) 1).2.1).2.2 = .item ⟨700, 7⟩ ∧
    -- skip(1), step_by(2), take(2), last, count
    (collectVia lawfulCast t false 6 (.skip 1) exWorld 0 []).kept.map (·.1) = [2, 7] ∧
    (collectVia lawfulCast t false 6 (.stepBy 1 true) exWorld 0 []).kept.map (·.1) = [1, 7] ∧
    (collectVia lawfulCast t true 6 (.take 2) exWorld 0 []).kept.map (·.1) = [1, 2] ∧
    (collectVia lawfulCast t true 6 (.take 2) exWorld 0 []).index = 3 ∧
    (lastVia lawfulCast t true 6 .plain exWorld 0 none 0).kept = [(7, ⟨700, 7⟩)] ∧
    (lastVia lawfulCast t true 6 .plain exWorld 0 none 0).world.cell 2 = some ⟨200, .free⟩ ∧
    (countVia lawfulCast t true 6 (.skip 1) exWorld 0 0).seen = 2 := by
  decide +kernel

-- `iter().zip(iter())`: legal, every cell shared twice; `iter_mut().zip(iter())` panics at once
-- and leaves nothing behind (`x` is dropped by the unwinding)
example :
    let t := ({} : MetaTable).registerAll [3, 1, 3, 2, 5, 1, 7]
    (zipN lawfulCast t false false 6 exWorld 0 0 []).pairs.map (fun p => (p.1.1, p.2.1)) = [(1, 1), (2, 2), (7, 7)] ∧
    (zipN lawfulCast t false false 6 exWorld 0 0 []).world.cell 2 = some ⟨200, .shared 2⟩ ∧
    (zipN lawfulCast t true false 6 exWorld 0 0 []).panic = some .borrowed ∧
    (zipN lawfulCast t true false 6 exWorld 0 0 []).pairs = [] ∧
    (zipN lawfulCast t true false 6 exWorld 0 0 []).world.cell 1 = some ⟨100, .free⟩ := by
  decide +kernel

-- a conflicting guard in the skipped range: the default `nth` panics there
example :
    let t := ({} : MetaTable).registerAll [3, 1, 3, 2, 5, 1, 7]
    (t.nth lawfulCast (exWorld.acquire 1 true).1 (t.iter false) 1).2.2 = .panic .borrowed := by
  decide +kernel

#print axioms C17_inv
#print axioms C17_inv_step
#print axioms C17_register_in_bounds
#print axioms C17_tys_first_registration
#print axioms C17_registered_iff
#print axioms C17_register_idem
#print axioms C17_get_spec
#print axioms C17_get_some_iff
#print axioms C17_get_some_same_address
#print axioms C17_get_none_iff
#print axioms C17_getMut_spec
#print axioms C17_bad_cast_panics_get
#print axioms C17_check_at_every_use
#print axioms C17_get_same_address_other_vtable
#print axioms C17_next_spec
#print axioms C17_next_in_bounds
#print axioms C17_next_item_same_address
#print axioms C17_bad_cast_panics_next
#print axioms C17_next_conflict_panics
#print axioms C17_borrow_kind
#print axioms C17_release_item
#print axioms C17_iter_spec_any_vtable
#print axioms C17_iter_spec
#print axioms C17_iter_once_each
#print axioms C17_iter_free_world
#print axioms C17_collect_fuel
#print axioms exWorld_free
#print axioms C17_usable_drivable
#print axioms C17_usable_free
#print axioms C17_nth_zero
#print axioms C17_nth_spec
#print axioms C17_nth_kth_present
#print axioms C17_nth_conflict_panics
#print axioms C17_collect_via_spec
#print axioms C17_skip_spec
#print axioms C17_take_spec
#print axioms C17_step_by_spec
#print axioms C17_last_spec
#print axioms C17_count_spec
#print axioms C17_size_hint_valid
end Meta
end Shred
