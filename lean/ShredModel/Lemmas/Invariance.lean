import ShredModel.Lemmas.Sim
import ShredModel.Model.Plan
/-!
# C19: the plan does not depend on how resources are labelled, listed or sorted

`ZRel ρ z z'`: same barrier, same shape, same ids / systems / times cell by cell, and the
accumulated read / write sets of `z'` are the `ρ`-images (as *sets*) of those of `z`.
For injective `ρ`, inserting a system whose declaration is the `ρ`-image (again as sets —
so any permutation, duplication or sort order of the lists is covered) chooses the same
target and preserves the relation. "Cell by cell" is `PW`, two lists related position by
position, once for the groups of a stage and once for the stages of a builder.

Unlike ids and tags (`Lemmas/Relabel.lean`, a function on the five tables), this has to be a relation up to
set equality: the lists may be permuted or hold duplicates, and `sortDedup` does not commute with `ρ`. So it
is proved on the zipped view, where a group's accumulators sit in one cell, and reaches the code's builder
through `unzip_insert`.
-/
namespace Shred

def PW {α β} (R : α → β → Prop) (l : List α) (l' : List β) : Prop :=
  l'.length = l.length ∧ ∀ (i : Nat) (a : α) (a' : β), l[i]? = some a → l'[i]? = some a' → R a a'

namespace PW
variable {α β : Type} {R : α → β → Prop}

theorem nil : PW R [] [] := ⟨rfl, fun i a a' h => by simp at h⟩

theorem cons_iff {a : α} {a' : β} {l : List α} {l' : List β} : PW R (a :: l) (a' :: l') ↔ R a a' ∧ PW R l l' := by
  constructor
  · intro h
    exact ⟨h.2 0 a a' rfl rfl, Nat.succ.inj h.1, fun i b b' hb hb' => h.2 (i + 1) b b' hb hb'⟩
  · rintro ⟨h0, h⟩
    refine ⟨congrArg (· + 1) h.1, fun i b b' hb hb' => ?_⟩
    cases i with
    | zero => cases hb; cases hb'; exact h0
    | succ i => exact h.2 i b b' hb hb'

theorem cons {a : α} {a' : β} {l : List α} {l' : List β} (h0 : R a a') (h : PW R l l') : PW R (a :: l) (a' :: l') :=
  cons_iff.mpr ⟨h0, h⟩

theorem singleton {a : α} {a' : β} (h : R a a') : PW R [a] [a'] := cons h nil

theorem rec' {motive : (l : List α) → (l' : List β) → PW R l l' → Prop} (nil : motive [] [] nil)
    (cons : ∀ {a a' l l'} (h0 : R a a') (h : PW R l l'), motive l l' h → motive (a :: l) (a' :: l') (cons h0 h)) :
    ∀ {l : List α} {l' : List β} (h : PW R l l'), motive l l' h
  | [], [], _ => nil
  | [], _ :: _, h => nomatch h.1
  | _ :: _, [], h => nomatch h.1
  | _ :: _, _ :: _, h => cons (cons_iff.mp h).1 (cons_iff.mp h).2 (rec' nil cons (cons_iff.mp h).2)

theorem append {l₁ l₂ : List α} {l₁' l₂' : List β} (h₁ : PW R l₁ l₁') (h₂ : PW R l₂ l₂') :
    PW R (l₁ ++ l₂) (l₁' ++ l₂') := by
  induction h₁ using rec' with
  | nil => exact h₂
  | cons h0 _ ih => exact cons h0 ih

theorem modify {l : List α} {l' : List β} (h : PW R l l') (k : Nat) {f : α → α} {f' : β → β}
    (hf : ∀ a a', R a a' → R (f a) (f' a')) : PW R (l.modify k f) (l'.modify k f') := by
  induction h using rec' generalizing k with
  | nil => rw [List.modify_nil, List.modify_nil]; exact nil
  | cons h0 h ih =>
    cases k with
    | zero => exact cons (hf _ _ h0) h
    | succ k => exact cons h0 (ih k)

theorem take {l : List α} {l' : List β} (h : PW R l l') (k : Nat) : PW R (l.take k) (l'.take k) := by
  induction h using rec' generalizing k with
  | nil => simpa using nil
  | cons h0 _ ih =>
    cases k with
    | zero => exact nil
    | succ k => exact cons h0 (ih k)

theorem drop {l : List α} {l' : List β} (h : PW R l l') (k : Nat) : PW R (l.drop k) (l'.drop k) := by
  induction h using rec' generalizing k with
  | nil => simpa using nil
  | cons h0 h ih =>
    cases k with
    | zero => exact cons h0 h
    | succ k => exact ih k

theorem map_eq {γ} {l : List α} {l' : List β} (h : PW R l l') {f : α → γ} {f' : β → γ}
    (hf : ∀ a a', R a a' → f a = f' a') : l'.map f' = l.map f := by
  induction h using rec' with
  | nil => rfl
  | cons h0 _ ih => rw [List.map_cons, List.map_cons, ih, hf _ _ h0]

theorem get {l : List α} {l' : List β} (h : PW R l l') {i : Nat} (hi : i < l.length) :
    ∃ a a', l[i]? = some a ∧ l'[i]? = some a' ∧ R a a' :=
  have hi' : i < l'.length := h.1 ▸ hi
  ⟨l[i], l'[i], List.getElem?_eq_getElem hi, List.getElem?_eq_getElem hi',
    h.2 i _ _ (List.getElem?_eq_getElem hi) (List.getElem?_eq_getElem hi')⟩

end PW

def SetImg (ρ : ResId → ResId) (l l' : List ResId) : Prop := ∀ x, x ∈ l' ↔ ∃ y, y ∈ l ∧ ρ y = x

theorem SetImg.append {ρ} {a a' b b' : List ResId} (ha : SetImg ρ a a') (hb : SetImg ρ b b') :
    SetImg ρ (a ++ b) (a' ++ b') := fun x => by
  simp only [List.mem_append, ha x, hb x, or_and_right, exists_or]

structure GRel (ρ : ResId → ResId) (g g' : ZGroup) : Prop where
  ids : g'.ids = g.ids
  sys : g'.sys = g.sys
  time : g'.time = g.time
  reads : SetImg ρ g.reads g'.reads
  writes : SetImg ρ g.writes g'.writes

/-- `PW (GRel ρ)`, written out -/
def StRel (ρ : ResId → ResId) (st st' : ZStage) : Prop :=
  st'.length = st.length ∧ ∀ (i : Nat) (g g' : ZGroup), st[i]? = some g → st'[i]? = some g' → GRel ρ g g'

/-- same barrier, and the stages are `PW (StRel ρ)` (`ZRel.pw`, `ZRel.of_pw`) -/
structure ZRel (ρ : ResId → ResId) (z z' : ZB) : Prop where
  barrier : z'.barrier = z.barrier
  len : z'.stages.length = z.stages.length
  stage : ∀ (s : Nat) (st st' : ZStage), z.stages[s]? = some st → z'.stages[s]? = some st' → StRel ρ st st'

variable {ρ : ResId → ResId}

theorem ZRel.pw {z z' : ZB} (h : ZRel ρ z z') : PW (StRel ρ) z.stages z'.stages := ⟨h.len, h.stage⟩

theorem ZRel.of_pw {z z' : ZB} (hb : z'.barrier = z.barrier) (h : PW (StRel ρ) z.stages z'.stages) : ZRel ρ z z' :=
  ⟨hb, h.1, h.2⟩

theorem zrel_init (ρ : ResId → ResId) : ZRel ρ {} {} :=
  ⟨rfl, rfl, fun s st st' hs => by simp at hs⟩

theorem ZRel.proj_eq {z z' : ZB} (h : ZRel ρ z z') {β : Type} {f : ZGroup → β}
    (hf : ∀ g g', GRel ρ g g' → f g = f g') : Table.proj f z'.stages = Table.proj f z.stages :=
  h.pw.map_eq fun _ _ hst => (PW.map_eq hst hf).symm

/-! What a stage is asked apart from the conflict test reads only ids, systems and times, which are
equal; placing keeps the relation. None of this needs `ρ` injective. -/

theorem zRemoveIds_rel {st st' : ZStage} (h : StRel ρ st st') (dep : List Nat) :
    zRemoveIds st' dep = zRemoveIds st dep := by
  unfold zRemoveIds
  rw [List.flatMap_def, List.flatMap_def, PW.map_eq h fun _ _ hg => hg.ids.symm]

theorem zJoinOk_rel {st st' : ZStage} (h : StRel ρ st st') (g t : Nat) :
    zJoinOk st' g t = zJoinOk st g t := by
  unfold zJoinOk
  rw [PW.map_eq h fun _ _ hg => hg.sys.symm, PW.map_eq h fun _ _ hg => hg.time.symm]

theorem zPending_rel {sts sts' : List ZStage} (h : PW (StRel ρ) sts sts') (dep : List Nat) :
    zPending sts' dep = zPending sts dep := by
  induction h using PW.rec' generalizing dep with
  | nil => rfl
  | cons hst _ ih => simp only [zPending, List.foldl_cons, zRemoveIds_rel hst]; exact ih _

theorem pend_rel {z z' : ZB} (h : ZRel ρ z z') (dedupN : List Nat → List Nat) (dep : List Nat) (s : Nat) :
    z'.pend dedupN dep s = z.pend dedupN dep s :=
  zPending_rel (h.pw.take s) (dedupN dep)

theorem grel_push {g g' : ZGroup} (hg : GRel ρ g g') {id sys : Nat} {nr nr' : List ResId} {d d' : Decl}
    (hr : SetImg ρ nr nr') (hw : SetImg ρ d.writes d'.writes) (ht : d'.time = d.time) :
    GRel ρ (g.push id sys nr d) (g'.push id sys nr' d') where
  ids := congrArg (· ++ [id]) hg.ids
  sys := congrArg (· ++ [sys]) hg.sys
  time := by rw [ZGroup.push, ZGroup.push, hg.time, ht]
  reads := hg.reads.append hr
  writes := hg.writes.append hw

theorem place_rel {z z' : ZB} (h : ZRel ρ z z') (tg : InsertionTarget) (id sys : Nat)
    {nr nr' : List ResId} {d d' : Decl} (hr : SetImg ρ nr nr') (hw : SetImg ρ d.writes d'.writes)
    (ht : d'.time = d.time) :
    ZRel ρ (z.place tg id sys nr d) (z'.place tg id sys nr' d') := by
  have hnew : StRel ρ [newGroup id sys nr d] [newGroup id sys nr' d'] :=
    PW.singleton { ids := rfl, sys := rfl, time := ht, reads := hr, writes := hw }
  cases tg with
  | newStage => exact .of_pw h.barrier (h.pw.append (PW.singleton hnew))
  | stage s => exact .of_pw h.barrier (h.pw.modify s fun _ _ hst => PW.append hst hnew)
  | group s g =>
    exact .of_pw h.barrier (h.pw.modify s fun _ _ hst => PW.modify hst g fun _ _ hg => grel_push hg hr hw ht)

/-! The conflict test intersects resource lists: the same answer on both sides when `ρ` is injective. -/

section
variable (hinj : ∀ a b, ρ a = ρ b → a = b)
include hinj

theorem resHit_rel {nr nr' nw nw' : List ResId} {g g' : ZGroup} (hg : GRel ρ g g')
    (hr : SetImg ρ nr nr') (hw : SetImg ρ nw nw') : resHit nr' nw' g' = resHit nr nw g := by
  unfold resHit hit
  rw [inter_image hinj hw (hg.writes.append hg.reads), inter_image hinj hr hg.writes]

theorem zFindConflict_rel {st st' : ZStage} (h : StRel ρ st st') {nr nr' nw nw' : List ResId}
    (hr : SetImg ρ nr nr') (hw : SetImg ρ nw nw') (dep : List Nat) :
    zFindConflict st' nr' nw' dep = zFindConflict st nr nw dep := by
  have hpt : ∀ i, i < st.length →
      (match st'[i]? with | some g => resHit nr' nw' g || depHit dep g | none => false)
        = (match st[i]? with | some g => resHit nr nw g || depHit dep g | none => false) ∧
      (match st'[i]? with | some g => !resHit nr' nw' g && depHit dep g | none => false)
        = (match st[i]? with | some g => !resHit nr nw g && depHit dep g | none => false) := by
    intro i hi
    obtain ⟨g, g', h1, h2, hg⟩ := PW.get h hi
    rw [h1, h2]
    simp only [resHit_rel hinj hg hr hw, depHit, hg.ids, and_self]
  have hhits : zHits st' nr' nw' dep = zHits st nr nw dep := by
    unfold zHits
    rw [h.1]
    exact List.filter_congr (fun i hi => (hpt i (List.mem_range.mp hi)).1)
  have hdc : zDepConflict st' nr' nw' dep = zDepConflict st nr nw dep := by
    unfold zDepConflict
    rw [← any_range_eq st', ← any_range_eq st, h.1]
    exact any_congr_mem (fun i hi => (hpt i (List.mem_range.mp hi)).2)
  unfold zFindConflict
  rw [hhits, hdc]

theorem zScan_rel {sts sts' : List ZStage} (h : PW (StRel ρ) sts sts') {nr nr' nw nw' : List ResId}
    (hr : SetImg ρ nr nr') (hw : SetImg ρ nw nw') (t i : Nat) (dep : List Nat) :
    zScan zJoinOk nr' nw' t i sts' dep = zScan zJoinOk nr nw t i sts dep := by
  induction h using PW.rec' generalizing dep i with
  | nil => rfl
  | cons hst _ ih =>
    simp only [zScan, zVerdict, zFindConflict_rel hinj hst hr hw, zRemoveIds_rel hst, zJoinOk_rel hst, ih]

theorem target_rel {z z' : ZB} (h : ZRel ρ z z') (dedupN : List Nat → List Nat) (dep : List Nat)
    {nr nr' : List ResId} {d d' : Decl} (hr : SetImg ρ nr nr') (hw : SetImg ρ d.writes d'.writes)
    (ht : d'.time = d.time) :
    z'.target zJoinOk dedupN dep nr' d' = z.target zJoinOk dedupN dep nr d := by
  rw [ZB.target, ZB.target, zPrepDep_eq_pend, zPrepDep_eq_pend, h.barrier, ht, pend_rel h]
  exact zScan_rel hinj (h.pw.drop _) hr hw _ _ _

/-- **C19, plan level.** Registering a system whose declaration is relabelled by an injective `ρ`
— with its lists permuted, duplicated or normalised by *any* membership-preserving functions —
into a builder that is the `ρ`-image of another chooses the same place and keeps the relation.
Ids, executed systems and running times of the two builders therefore coincide forever. -/
theorem insert_rel {z z' : ZB} (h : ZRel ρ z z') (norm norm' : List ResId → List ResId)
    (hnorm : ∀ l x, x ∈ norm l ↔ x ∈ l) (hnorm' : ∀ l x, x ∈ norm' l ↔ x ∈ l)
    (dedupN : List Nat → List Nat) (dep : List Nat) (id sys : Nat) {d d' : Decl}
    (hr : SetImg ρ d.reads d'.reads) (hw : SetImg ρ d.writes d'.writes) (ht : d'.time = d.time) :
    ZRel ρ (z.insert zJoinOk norm dedupN dep id sys d) (z'.insert zJoinOk norm' dedupN dep id sys d') := by
  have hr' : SetImg ρ (norm d.reads) (norm' d'.reads) := fun x => by simp only [hnorm, hnorm', hr x]
  unfold ZB.insert
  rw [target_rel hinj h dedupN dep hr' hw ht]
  exact place_rel h _ id sys hr' hw ht

end

#print axioms insert_rel

/-- two registration sequences that differ only by an injective relabelling `ρ` of resources
and by the order / multiplicity in which each system lists its reads and writes -/
inductive OpsRel (ρ : ResId → ResId) : List SOp → List SOp → Prop
  | nil : OpsRel ρ [] []
  | barrier {a b} : OpsRel ρ a b → OpsRel ρ (.barrier :: a) (.barrier :: b)
  | insert {a b dep d d'} : SetImg ρ d.reads d'.reads → SetImg ρ d.writes d'.writes → d'.time = d.time →
      OpsRel ρ a b → OpsRel ρ (.insert dep d :: a) (.insert dep d' :: b)

theorem opsRel_foldl {ρ : ResId → ResId} (hinj : ∀ a b, ρ a = ρ b → a = b) {ops ops' : List SOp}
    (h : OpsRel ρ ops ops') (z z' : ZB) (n : Nat) (hr : ZRel ρ z z') :
    ∃ y y' m, ops.foldl SOp.step (unzip z, n) = (unzip y, m) ∧ ops'.foldl SOp.step (unzip z', n) = (unzip y', m) ∧
      ZRel ρ y y' := by
  induction h generalizing z z' n with
  | nil => exact ⟨z, z', n, rfl, rfl, hr⟩
  | barrier _ ih =>
    simp only [List.foldl_cons, SOp.step, unzip_addBarrier]
    -- `addBarrier` sets `barrier := stages.length`
    exact ih _ _ n { hr with barrier := hr.len }
  | insert hrd hwr ht _ ih =>
    simp only [List.foldl_cons, SOp.step, unzip_insert]
    exact ih _ _ _ (insert_rel hinj hr sortDedup sortDedup (fun _ _ => mem_sortDedup) (fun _ _ => mem_sortDedup)
      dedup _ n n hrd hwr ht)

end Shred
