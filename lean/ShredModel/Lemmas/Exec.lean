import ShredModel.Lemmas.Accept
import ShredModel.Lemmas.ListAux
/-!
# What every trace of a dispatch plan satisfies

For **every** interleaving (all shuffles at `par` nodes): each instance fetches and drops as often as
it occurs in the task (`traces_count`, hence `traces_once`; C04), happens-before along `seq` nodes
(`traces_before`; C02, C03, C12, C16) and inside each window (`traces_F_before_D`), isolation of
whatever runs side by side (`traces_isolated`; C01, C07, C16), and equality with the sequential run
(`par_eq_seq`; C05).
-/
namespace Shred
variable {ι : Type}

/-- `Before t x y`: at their lowest common ancestor, `x` lies in an earlier child of a `seq`. -/
inductive Before : Task ι → ι → ι → Prop
  | here {a b x y} : x ∈ Task.sys a → y ∈ Task.sys b → Before (.seq a b) x y
  | seqL {a b x y} : Before a x y → Before (.seq a b) x y
  | seqR {a b x y} : Before b x y → Before (.seq a b) x y
  | parL {a b x y} : Before a x y → Before (.par a b) x y
  | parR {a b x y} : Before b x y → Before (.par a b) x y
  | scope {s body x y} : Before body x y → Before (.scope s body) x y

/-- `Anc t x y`: `x` is a batch scope of `t` and `y` runs inside it -/
inductive Anc : Task ι → ι → ι → Prop
  | here {s body y} : y ∈ Task.sys body → Anc (.scope s body) s y
  | scope {s body x y} : Anc body x y → Anc (.scope s body) x y
  | seqL {a b x y} : Anc a x y → Anc (.seq a b) x y
  | seqR {a b x y} : Anc b x y → Anc (.seq a b) x y
  | parL {a b x y} : Anc a x y → Anc (.par a b) x y
  | parR {a b x y} : Anc b x y → Anc (.par a b) x y

/-- static well-formedness: whatever two children of a `par` contain is pairwise compatible -/
def WF (Compat : ι → ι → Prop) : Task ι → Prop
  | .nil => True
  | .leaf _ => True
  | .seq a b => WF Compat a ∧ WF Compat b
  | .par a b => (∀ x, x ∈ Task.sys a → ∀ y, y ∈ Task.sys b → Compat x y) ∧ WF Compat a ∧ WF Compat b
  | .scope _ body => WF Compat body

/-- `x`'s window is open after the events `p` -/
def OpenIn (x : ι) (p : List (Ev ι)) : Prop := Ev.F x ∈ p ∧ Ev.D x ∉ p

def eval {σ : Type} (act : Ev ι → σ → σ) (l : List (Ev ι)) (s : σ) : σ := l.foldl (fun s e => act e s) s

def Task.NoPar : Task ι → Prop
  | .nil => True
  | .leaf _ => True
  | .seq a b => a.NoPar ∧ b.NoPar
  | .par _ _ => False
  | .scope _ b => b.NoPar

def Task.NoScope : Task ι → Prop
  | .nil => True
  | .leaf _ => True
  | .seq a b => a.NoScope ∧ b.NoScope
  | .par a b => a.NoScope ∧ b.NoScope
  | .scope _ _ => False

theorem before_mem {t : Task ι} {x y : ι} (h : Before t x y) : x ∈ Task.sys t ∧ y ∈ Task.sys t := by
  induction h with
  | here hx hy => simp [Task.sys, hx, hy]
  | seqL _ ih | seqR _ ih | parL _ ih | parR _ ih | scope _ ih => simp [Task.sys, ih.1, ih.2]

theorem not_anc_of_noScope {t : Task ι} (h : t.NoScope) (x y : ι) : ¬ Anc t x y := by
  intro ha
  induction ha with
  | here _ | scope _ _ => exact h
  | seqL _ ih | parL _ ih => exact ih h.1
  | seqR _ ih | parR _ ih => exact ih h.2

theorem traces_noPar {t : Task ι} {l : List (Ev ι)} (h : Traces t l) (hn : t.NoPar) : l = t.seqTrace := by
  induction h with
  | nil => rfl
  | leaf s => rfl
  | seq _ _ iha ihb => simp only [Task.seqTrace]; rw [iha hn.1, ihb hn.2]
  | par _ _ _ _ _ => exact absurd hn (by simp [Task.NoPar])
  | scope _ ih => simp only [Task.seqTrace]; rw [ih hn]

theorem traces_seqTrace (t : Task ι) : Traces t t.seqTrace := by
  induction t with
  | nil => exact .nil
  | leaf s => exact .leaf s
  | seq a b iha ihb => exact .seq iha ihb
  | par a b iha ihb => exact .par iha ihb (shuffle_append _ _)
  | scope s body ih => exact .scope ih

theorem eval_append {σ : Type} (act : Ev ι → σ → σ) (a b : List (Ev ι)) (s : σ) :
    eval act (a ++ b) s = eval act b (eval act a s) := by
  simp [eval, List.foldl_append]

theorem eval_flatten_of_forall {σ : Type} (act : Ev ι → σ → σ) {ls : List (List (Ev ι))} {r : List (Ev ι)}
    (h : ∀ l, l ∈ ls → ∀ s, eval act l s = eval act r s) (s : σ) :
    eval act ls.flatten s = eval act (List.replicate ls.length r).flatten s := by
  induction ls generalizing s with
  | nil => rfl
  | cons l ls ih =>
    simp only [List.flatten_cons, List.length_cons, List.replicate_succ, eval_append]
    rw [h l List.mem_cons_self s]
    exact ih (fun l' hl' => h l' (List.mem_cons_of_mem _ hl')) _

theorem traces_ev_sys {t : Task ι} {l : List (Ev ι)} (h : Traces t l) : ∀ e, e ∈ l → e.sys ∈ Task.sys t := by
  induction h with
  | nil => intro e he; cases he
  | leaf s => intro e he; simp at he; rcases he with rfl | rfl <;> exact List.mem_singleton.mpr rfl
  | seq _ _ iha ihb =>
    intro e he
    exact List.mem_append.mpr ((List.mem_append.mp he).imp (iha e) (ihb e))
  | par _ _ hs iha ihb =>
    intro e he
    exact List.mem_append.mpr ((hs.mem_iff.mp he).imp (iha e) (ihb e))
  | scope _ ih =>
    intro e he
    simp at he
    rcases he with rfl | h | rfl
    · exact List.mem_cons_self
    · exact List.mem_cons_of_mem _ (ih e h)
    · exact List.mem_cons_self

theorem not_mem_of_not_sys {t : Task ι} {l : List (Ev ι)} (h : Traces t l) {e : Ev ι} (he : e.sys ∉ t.sys) :
    e ∉ l := fun hm => he (traces_ev_sys h e hm)

namespace OpenIn
variable {z : ι} {p pa pb la m : List (Ev ι)}

theorem of_append (h : OpenIn z (la ++ m)) (hdone : Ev.F z ∈ la → Ev.D z ∈ la) : OpenIn z m :=
  ⟨(List.mem_append.mp h.1).resolve_left fun hF => h.2 (List.mem_append_left _ (hdone hF)),
    fun hD => h.2 (List.mem_append_right _ hD)⟩

theorem of_shuffle (hs : Shuffle pa pb p) (h : OpenIn z p) : OpenIn z pa ∨ OpenIn z pb :=
  (hs.mem_iff.mp h.1).imp (fun hF => ⟨hF, fun hD => h.2 (hs.mem_iff.mpr (.inl hD))⟩)
    fun hF => ⟨hF, fun hD => h.2 (hs.mem_iff.mpr (.inr hD))⟩

end OpenIn

variable [DecidableEq ι]

theorem count_window (s : ι) (m : List (Ev ι)) (e : Ev ι) :
    (Ev.F s :: m ++ [Ev.D s]).count e = [s].count e.sys + m.count e := by
  rcases e with x | x <;> by_cases hs : s = x <;> simp [Ev.sys, List.count_append, hs, Nat.add_comm]

theorem traces_count {t : Task ι} {l : List (Ev ι)} (h : Traces t l) (e : Ev ι) :
    l.count e = t.sys.count e.sys := by
  induction h with
  | nil => rfl
  | leaf s => exact count_window s [] e
  | seq _ _ iha ihb => simp only [Task.sys, List.count_append, iha, ihb]
  | par _ _ hs iha ihb => simp only [Task.sys, List.count_append, shuffle_count hs, iha, ihb]
  | @scope s body _ _ ih => rw [count_window, ih]; exact (List.count_append (l₁ := [s]) (l₂ := body.sys)).symm

theorem traces_count_le {t : Task ι} {l : List (Ev ι)} (h : Traces t l) (hnd : t.sys.Nodup) (e : Ev ι) :
    l.count e ≤ 1 := traces_count h e ▸ List.nodup_iff_count.mp hnd e.sys

theorem traces_complete {t : Task ι} {l : List (Ev ι)} (h : Traces t l) :
    ∀ x, x ∈ Task.sys t → Ev.F x ∈ l ∧ Ev.D x ∈ l := fun x hx =>
  have hp := List.count_pos_iff.mpr hx
  ⟨List.count_pos_iff.mp (traces_count h (.F x) ▸ hp), List.count_pos_iff.mp (traces_count h (.D x) ▸ hp)⟩

theorem traces_once {t : Task ι} {l : List (Ev ι)} (h : Traces t l) :
    (Task.sys t).Nodup → ∀ x, x ∈ Task.sys t → l.count (Ev.F x) = 1 ∧ l.count (Ev.D x) = 1 := by
  intro hnd x hx
  have h1 : t.sys.count x = 1 := by rw [hnd.count, if_pos hx]
  exact ⟨(traces_count h (.F x)).trans h1, (traces_count h (.D x)).trans h1⟩

/-- `Prec l e' e`: wherever `e` occurs in `l`, an `e'` stands before it. The theorems about traces
(`traces_before`, `traces_F_before_D`, `precedes_trans`) spell this out in their statements,
`∀ l1 l2, l = l1 ++ e :: l2 → e' ∈ l1`; their proofs close such goals with the `Prec` lemmas below,
which unify with them by unfolding `Prec`. -/
def Prec {α} (l : List α) (e' e : α) : Prop := ∀ l1 l2, l = l1 ++ e :: l2 → e' ∈ l1

namespace Prec
variable {α : Type} {la lb l : List α} {e' e z : α}

theorem shuffle_left (hs : Shuffle la lb l) (h : Prec la e' e) (hb : e ∉ lb) : Prec l e' e := by
  intro l1 l2 hl
  subst hl
  obtain ⟨a1, a2, b1, b2, h1, _, h3, _⟩ := shuffle_split_left hs hb
  exact h3.mem_iff.mpr (.inl (h a1 a2 h1))

theorem shuffle_right (hs : Shuffle la lb l) (h : Prec lb e' e) (ha : e ∉ la) : Prec l e' e :=
  shuffle_left hs.symm h ha

/-- one after the other is one of the shuffles -/
theorem append_left (h : Prec la e' e) (hb : e ∉ lb) : Prec (la ++ lb) e' e :=
  shuffle_left (shuffle_append la lb) h hb

theorem append_right (h : Prec lb e' e) (ha : e ∉ la) : Prec (la ++ lb) e' e :=
  shuffle_right (shuffle_append la lb) h ha

theorem append_of_mem (h : e' ∈ la) (ha : e ∉ la) : Prec (la ++ lb) e' e := by
  intro l1 l2 hl
  obtain ⟨m, rfl, _⟩ := append_split hl ha
  exact List.mem_append_left _ h

theorem cons (h : Prec l e' e) (hz : z ≠ e) : Prec (z :: l) e' e :=
  append_right (la := [z]) h fun hm => hz (List.mem_singleton.mp hm).symm

theorem cons_self (hz : z ≠ e) : Prec (z :: l) z e :=
  append_of_mem (la := [z]) (List.mem_singleton.mpr rfl) fun hm => hz (List.mem_singleton.mp hm).symm

theorem of_not_mem (h : e ∉ l) : Prec l e' e :=
  fun _ _ hl => absurd (hl ▸ List.mem_append_right _ List.mem_cons_self) h

theorem trans {e'' : α} (h1 : Prec l e'' e') (h2 : Prec l e' e) : Prec l e'' e := by
  intro l1 l2 hl
  obtain ⟨m1, m2, rfl⟩ := List.append_of_mem (h2 l1 l2 hl)
  exact List.mem_append_left _ (h1 m1 _ (by rw [hl, List.append_assoc]; rfl))

end Prec

/-- **Every dispatch honours `Before`.** Whenever `y` starts fetching, `x` has already dropped
its data — in every trace, i.e. for every interleaving. -/
theorem traces_before {t : Task ι} {l : List (Ev ι)} (h : Traces t l) :
    (Task.sys t).Nodup → ∀ x y, Before t x y → ∀ l1 l2, l = l1 ++ Ev.F y :: l2 → Ev.D x ∈ l1 := by
  induction h with
  | nil => intro _ x y hb; cases hb
  | leaf s => intro _ x y hb; cases hb
  | @seq a b la lb ha hb iha ihb =>
    intro hnd x y hbef
    obtain ⟨hna, hnb, hdisj⟩ := List.nodup_append.mp hnd
    cases hbef with
    | here hx hy =>
      exact Prec.append_of_mem (traces_complete ha x hx).2 (not_mem_of_not_sys ha fun h => hdisj y h y hy rfl)
    | seqL hb' =>
      exact Prec.append_left (iha hna x y hb') (not_mem_of_not_sys hb fun h => hdisj y (before_mem hb').2 y h rfl)
    | seqR hb' =>
      exact Prec.append_right (ihb hnb x y hb') (not_mem_of_not_sys ha fun h => hdisj y h y (before_mem hb').2 rfl)
  | @par a b la lb l ha hb hs iha ihb =>
    intro hnd x y hbef
    obtain ⟨hna, hnb, hdisj⟩ := List.nodup_append.mp hnd
    cases hbef with
    | parL hb' =>
      exact Prec.shuffle_left hs (iha hna x y hb') (not_mem_of_not_sys hb fun h => hdisj y (before_mem hb').2 y h rfl)
    | parR hb' =>
      exact Prec.shuffle_right hs (ihb hnb x y hb') (not_mem_of_not_sys ha fun h => hdisj y h y (before_mem hb').2 rfl)
  | @scope s body l hb ih =>
    intro hnd x y hbef
    obtain ⟨hs, hnb⟩ := List.nodup_cons.mp hnd
    cases hbef with
    | scope hb' =>
      exact Prec.cons (Prec.append_left (ih hnb x y hb') (by simp))
        (fun e => hs (by cases e; exact (before_mem hb').2))

omit [DecidableEq ι] in
/-- a window opens before it closes: every `D x` of a trace has `F x` before it … -/
theorem traces_F_before_D {t : Task ι} {l : List (Ev ι)} (h : Traces t l) :
    (Task.sys t).Nodup → ∀ x, x ∈ Task.sys t → ∀ l1 l2, l = l1 ++ Ev.D x :: l2 → Ev.F x ∈ l1 := by
  induction h with
  | nil => intro _ x hx; cases hx
  | leaf s => intro _ x hx; cases List.mem_singleton.mp hx; exact Prec.cons_self (by simp)
  | @seq a b la lb ha hb iha ihb =>
    intro hnd x hx
    obtain ⟨hna, hnb, hdisj⟩ := List.nodup_append.mp hnd
    rcases List.mem_append.mp hx with hxa | hxb
    · exact Prec.append_left (iha hna x hxa) (not_mem_of_not_sys hb fun h => hdisj x hxa x h rfl)
    · exact Prec.append_right (ihb hnb x hxb) (not_mem_of_not_sys ha fun h => hdisj x h x hxb rfl)
  | @par a b la lb l ha hb hs iha ihb =>
    intro hnd x hx
    obtain ⟨hna, hnb, hdisj⟩ := List.nodup_append.mp hnd
    rcases List.mem_append.mp hx with hxa | hxb
    · exact Prec.shuffle_left hs (iha hna x hxa) (not_mem_of_not_sys hb fun h => hdisj x hxa x h rfl)
    · exact Prec.shuffle_right hs (ihb hnb x hxb) (not_mem_of_not_sys ha fun h => hdisj x h x hxb rfl)
  | @scope s body l hb ih =>
    intro hnd x hx
    obtain ⟨hs, hnb⟩ := List.nodup_cons.mp hnd
    rcases List.mem_cons.mp hx with rfl | hxb
    · exact Prec.cons_self (by simp)
    · exact Prec.cons (Prec.append_left (ih hnb x hxb) (by simpa using fun e : x = s => hs (e ▸ hxb))) (by simp)

/-- … and, fetching only once, has not dropped anything before it fetches -/
theorem traces_no_D_before_F {t : Task ι} {l : List (Ev ι)} (h : Traces t l) (hnd : (Task.sys t).Nodup)
    {x : ι} {p l2 : List (Ev ι)} (hl : l = p ++ Ev.F x :: l2) : Ev.D x ∉ p := by
  intro hD
  obtain ⟨p1, p2, rfl⟩ := List.append_of_mem hD
  have hx : x ∈ t.sys := traces_ev_sys h (.F x) (by simp [hl])
  have hF := List.count_pos_iff.mpr (traces_F_before_D h hnd x hx p1 (p2 ++ Ev.F x :: l2) (by simp [hl]))
  have h1 := (traces_once h hnd x hx).1
  simp only [hl, List.count_append, List.count_cons_self] at h1
  omega

/-- "has dropped before the other fetches" composes: `B` fetches before it drops -/
theorem precedes_trans {t : Task ι} {l : List (Ev ι)} (h : Traces t l) (hnd : t.sys.Nodup) {A B C : ι}
    (hAB : ∀ l1 l2, l = l1 ++ Ev.F B :: l2 → Ev.D A ∈ l1) (hBC : ∀ l1 l2, l = l1 ++ Ev.F C :: l2 → Ev.D B ∈ l1)
    {l1 l2 : List (Ev ι)} (hsplit : l = l1 ++ Ev.F C :: l2) : Ev.D A ∈ l1 :=
  have hB : Prec l (Ev.F B) (Ev.D B) :=
    if hB : B ∈ t.sys then traces_F_before_D h hnd B hB else .of_not_mem (not_mem_of_not_sys h hB)
  ((Prec.trans hAB hB).trans hBC) l1 l2 hsplit

/-- **Isolation for every interleaving.** In every prefix of every trace of a well-formed
task, two distinct open systems are compatible, unless one is a batch and the other runs
inside it. -/
theorem traces_isolated {Compat : ι → ι → Prop} (hsym : ∀ x y, Compat x y → Compat y x)
    {t : Task ι} {l : List (Ev ι)} (h : Traces t l) :
    WF Compat t → (Task.sys t).Nodup → ∀ p, p <+: l → ∀ x y, x ≠ y → OpenIn x p → OpenIn y p →
      Anc t x y ∨ Anc t y x ∨ Compat x y := by
  induction h with
  | nil =>
    intro _ _ p hp x y _ hx
    cases List.prefix_nil.mp hp; cases hx.1
  | leaf s =>
    intro _ _ p hp x y hne hx hy
    have h1 := hp.subset hx.1
    have h2 := hp.subset hy.1
    simp at h1 h2
    exact absurd (h1.trans h2.symm) hne
  | @seq a b la lb ha hb iha ihb =>
    intro hwf hnd p hp x y hne hx hy
    obtain ⟨hna, hnb, _⟩ := List.nodup_append.mp hnd
    rcases prefix_append_cases hp with hpa | ⟨m, rfl, hm⟩
    · exact (iha hwf.1 hna p hpa x y hne hx hy).imp Anc.seqL (Or.imp Anc.seqL id)
    · -- nothing of `a` is still open once `la` is complete
      have hopen : ∀ {z}, OpenIn z (la ++ m) → OpenIn z m := fun hz =>
        hz.of_append fun hF => (traces_complete ha _ (traces_ev_sys ha _ hF)).2
      exact (ihb hwf.2 hnb m hm x y hne (hopen hx) (hopen hy)).imp Anc.seqR (Or.imp Anc.seqR id)
  | @par a b la lb l ha hb hs iha ihb =>
    intro hwf hnd p hp x y hne hx hy
    obtain ⟨hna, hnb, _⟩ := List.nodup_append.mp hnd
    obtain ⟨pa, pb, hpa, hpb, hsp⟩ := shuffle_prefix hs hp
    have ina : ∀ {z}, OpenIn z pa → z ∈ a.sys := fun hz => traces_ev_sys ha _ (hpa.subset hz.1)
    have inb : ∀ {z}, OpenIn z pb → z ∈ b.sys := fun hz => traces_ev_sys hb _ (hpb.subset hz.1)
    -- each of the two is open on one side: on the same side by induction, on different sides by `WF`
    rcases hx.of_shuffle hsp with hxa | hxb
    · rcases hy.of_shuffle hsp with hya | hyb
      · exact (iha hwf.2.1 hna pa hpa x y hne hxa hya).imp Anc.parL (Or.imp Anc.parL id)
      · exact .inr (.inr (hwf.1 x (ina hxa) y (inb hyb)))
    · rcases hy.of_shuffle hsp with hya | hyb
      · exact .inr (.inr (hsym _ _ (hwf.1 y (ina hya) x (inb hxb))))
      · exact (ihb hwf.2.2 hnb pb hpb x y hne hxb hyb).imp Anc.parR (Or.imp Anc.parR id)
  | @scope s body l hb ih =>
    intro hwf hnd p hp x y hne hx hy
    have hnb := (List.nodup_cons.mp hnd).2
    have inner : ∀ {z}, z ≠ s → OpenIn z p → z ∈ Task.sys body := fun hz ho =>
      traces_ev_sys hb (Ev.F _) (by simpa [hz] using hp.subset ho.1)
    by_cases hxs : x = s
    · subst hxs
      exact Or.inl (.here (inner (Ne.symm hne) hy))
    · by_cases hys : y = s
      · subst hys
        exact Or.inr (Or.inl (.here (inner hxs hx)))
      · cases p with
        | nil => cases hx.1
        | cons e p' =>
          obtain ⟨rfl, hp'⟩ : e = Ev.F s ∧ p' <+: l ++ [Ev.D s] := List.cons_prefix_cons.mp hp
          have strip : ∀ {z}, z ≠ s → OpenIn z (Ev.F s :: p') → OpenIn z p' := fun hz ho =>
            OpenIn.of_append (la := [Ev.F s]) ho fun hF => absurd (by simpa using hF) hz
          rcases prefix_append_cases hp' with hpl | ⟨m, rfl, _⟩
          · exact (ih hwf hnb p' hpl x y hne (strip hxs hx) (strip hys hy)).imp Anc.scope (Or.imp Anc.scope id)
          · -- the whole body is done: nothing of it is open
            exact absurd (List.mem_append_left _ (traces_complete hb x (inner hxs hx)).2) (strip hxs hx).2

theorem traces_isolated_of_noScope {Compat : ι → ι → Prop} (hsym : ∀ x y, Compat x y → Compat y x)
    {t : Task ι} {l : List (Ev ι)} (h : Traces t l) (hwf : WF Compat t) (hns : t.NoScope) (hnd : t.sys.Nodup)
    {p : List (Ev ι)} (hp : p <+: l) {x y : ι} (hxy : x ≠ y) (hx : OpenIn x p) (hy : OpenIn y p) : Compat x y :=
  match traces_isolated hsym h hwf hnd p hp x y hxy hx hy with
  | .inl ha => absurd ha (not_anc_of_noScope hns x y)
  | .inr (.inl ha) => absurd ha (not_anc_of_noScope hns y x)
  | .inr (.inr hc) => hc

variable {σ : Type}

theorem commute_list (act : Ev ι → σ → σ) (y : Ev ι) (la : List (Ev ι))
    (h : ∀ a, a ∈ la → ∀ s, act a (act y s) = act y (act a s)) (s : σ) :
    eval act la (act y s) = act y (eval act la s) := by
  induction la generalizing s with
  | nil => rfl
  | cons a la ih =>
    simp only [eval, List.foldl] at *
    rw [h a (by simp) s]
    exact ih (fun a' ha' => h a' (by simp [ha'])) (act a s)

theorem shuffle_eval (act : Ev ι → σ → σ) {la lb l : List (Ev ι)} (hs : Shuffle la lb l)
    (hc : ∀ a, a ∈ la → ∀ b, b ∈ lb → ∀ s, act a (act b s) = act b (act a s)) (s : σ) :
    eval act l s = eval act (la ++ lb) s := by
  induction hs generalizing s with
  | nil => rfl
  | @left x a b l _ ih =>
    simp only [eval, List.foldl, List.cons_append] at *
    exact ih (fun a' ha' b' hb' => hc a' (by simp [ha']) b' hb') (act x s)
  | @right y a b l _ ih =>
    have ih' := ih (fun a' ha' b' hb' => hc a' ha' b' (by simp [hb'])) (act y s)
    have e1 : eval act (y :: l) s = eval act l (act y s) := rfl
    rw [e1, ih', eval_append, eval_append]
    have e2 : eval act (y :: b) (eval act a s) = eval act b (act y (eval act a s)) := rfl
    rw [e2, commute_list act y a (fun a' ha' s' => hc a' ha' y (by simp) s') s]

omit [DecidableEq ι] in
/-- An action that does nothing at `F` events commutes on two events as soon as it does on the `D`
events of their systems (how the harness's actions meet `hcomm` below). -/
theorem act_comm_of_D {act : Ev ι → σ → σ} (hF : ∀ x s, act (.F x) s = s) (e1 e2 : Ev ι) (s : σ)
    (h : act (.D e1.sys) (act (.D e2.sys) s) = act (.D e2.sys) (act (.D e1.sys) s)) :
    act e1 (act e2 s) = act e2 (act e1 s) := by
  cases e1 with
  | F x => rw [hF, hF]
  | D x =>
    cases e2 with
    | F y => rw [hF, hF]
    | D y => exact h

/-- **Parallel dispatch equals sequential dispatch**, for every interleaving, provided events
of compatible systems commute (which is what "depends only on its own state and on the
resources it declared" gives: `C05_harness_commutes` for the harness systems). -/
theorem par_eq_seq {Compat : ι → ι → Prop} (act : Ev ι → σ → σ)
    (hcomm : ∀ e1 e2, Compat e1.sys e2.sys → ∀ s, act e1 (act e2 s) = act e2 (act e1 s))
    {t : Task ι} {l : List (Ev ι)} (h : Traces t l) :
    WF Compat t → ∀ s, eval act l s = eval act (Task.seqTrace t) s := by
  induction h with
  | nil => intro _ s; rfl
  | leaf x => intro _ s; rfl
  | @seq a b la lb _ _ iha ihb =>
    intro hwf s
    simp only [Task.seqTrace, eval_append]
    rw [iha hwf.1, ihb hwf.2]
  | @par a b la lb l ha hb hs iha ihb =>
    intro hwf s
    rw [shuffle_eval act hs (fun e1 h1 e2 h2 => hcomm e1 e2 (hwf.1 _ (traces_ev_sys ha _ h1) _ (traces_ev_sys hb _ h2)))]
    simp only [Task.seqTrace, eval_append]
    rw [iha hwf.2.1, ihb hwf.2.2]
  | @scope x body l _ ih =>
    intro hwf s
    simp only [Task.seqTrace]
    have e1 : ∀ (m : List (Ev ι)) (s : σ), eval act (Ev.F x :: m ++ [Ev.D x]) s
        = act (Ev.D x) (eval act m (act (Ev.F x) s)) := by
      intro m s; simp [eval, List.foldl_append]
    rw [e1, e1, ih hwf]

end Shred
