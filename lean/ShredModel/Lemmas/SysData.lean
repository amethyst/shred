import ShredModel.Model.SysData
/-!
# Lemmas for C06: the nested system-data model reduces to its sequence of leaf accesses

`fetch`, `reads`, `writes`, `setup` of an `SD` tree are the same functions of the flat lists
`leaves sd` / `handlers sd`. The flat fetch has one specification, `fetchA_ok` / `fetchA_err`, by
list induction. It goes through because what is said about a resource — whether it can be borrowed
as declared (`Conflict`), what its flag becomes (`flagAfter`) — depends only on the state of its
cell and on how often it is still to be read and written (`Clash`, `cell_cons`): a borrow that
succeeds moves one unit from these counts into the cell.
-/
namespace Shred.SysData

/-- The borrows that are granted: a read of a free cell or of a shared one, a write of a free cell. -/
theorem tryBorrow_some {b b' : Borrow} {e : Bool} (h : tryBorrow b e = some b') :
    (b = .free ∧ e = false ∧ b' = .shared 0) ∨ (∃ n, b = .shared n ∧ e = false ∧ b' = .shared (n + 1)) ∨
      (b = .free ∧ e = true ∧ b' = .excl) := by
  cases b <;> cases e <;> cases h
  · exact .inl ⟨rfl, rfl, rfl⟩
  · exact .inr (.inr ⟨rfl, rfl, rfl⟩)
  · exact .inr (.inl ⟨_, rfl, rfl, rfl⟩)

theorem dec_tryBorrow {b b' : Borrow} {e : Bool} (h : tryBorrow b e = some b') : dec b' = b := by
  rcases tryBorrow_some h with ⟨rfl, -, rfl⟩ | ⟨n, rfl, -, rfl⟩ | ⟨rfl, -, rfl⟩ <;> rfl

theorem tryBorrow_excl_some {b b' : Borrow} : tryBorrow b true = some b' ↔ b = .free ∧ b' = .excl := by
  cases b <;> simp [tryBorrow] <;> exact eq_comm
theorem tryBorrow_excl_none {b : Borrow} : tryBorrow b true = none ↔ b ≠ .free := by
  cases b <;> simp [tryBorrow]
theorem tryBorrow_shared_none {b : Borrow} : tryBorrow b false = none ↔ b = .excl := by
  cases b <;> simp [tryBorrow]

theorem release1_comm (fl : Flags) (g g' : Guard) :
    release1 (release1 fl g) g' = release1 (release1 fl g') g := by
  funext t
  simp only [release1, modify]
  split <;> split <;> rfl

theorem drop_append (fl : Flags) (g1 g2 : List Guard) : drop fl (g1 ++ g2) = drop (drop fl g1) g2 := by
  simp [drop]

theorem drop_perm (fl : Flags) {g1 g2 : List Guard} (h : g1.Perm g2) : drop fl g1 = drop fl g2 :=
  h.foldl_eq' (fun g _ g' _ fl => release1_comm fl g g') fl

theorem drop_comm (fl : Flags) (g1 g2 : List Guard) : drop (drop fl g1) g2 = drop (drop fl g2) g1 := by
  rw [← drop_append, ← drop_append, drop_perm fl List.perm_append_comm]

def fetch1 (present : Tag → Bool) (a : Acc) (fl : Flags) : Flags × Except Panic (List Guard) :=
  if present a.tag then borrow1 fl a.tag a.excl
  else if a.optional then (fl, .ok []) else (fl, .error (.absent a.tag))

/-- leaf accesses left to right, unwinding on a panic -/
def fetchA (present : Tag → Bool) : List Acc → Flags → Flags × Except Panic (List Guard)
  | [], fl => (fl, .ok [])
  | a :: as, fl =>
    match fetch1 present a fl with
    | (fl1, .error p) => (fl1, .error p)
    | (fl1, .ok g1) =>
      match fetchA present as fl1 with
      | (fl2, .error p) => (drop fl2 g1, .error p)
      | (fl2, .ok g2) => (fl2, .ok (g1 ++ g2))

/-- sequential composition of two fetches with unwinding -/
def seqF (r1 : Flags × Except Panic (List Guard)) (k : Flags → Flags × Except Panic (List Guard)) :
    Flags × Except Panic (List Guard) :=
  match r1 with
  | (fl1, .error p) => (fl1, .error p)
  | (fl1, .ok g1) =>
    match k fl1 with
    | (fl2, .error p) => (drop fl2 g1, .error p)
    | (fl2, .ok g2) => (fl2, .ok (g1 ++ g2))

theorem seqF_ok {r : Flags × Except Panic (List Guard)} {k : Flags → Flags × Except Panic (List Guard)}
    {fl' : Flags} {gs : List Guard} (h : seqF r k = (fl', .ok gs)) :
    ∃ fl1 g1 g2, r = (fl1, .ok g1) ∧ k fl1 = (fl', .ok g2) ∧ gs = g1 ++ g2 := by
  unfold seqF at h
  split at h
  · cases h
  · split at h <;> cases h
    exact ⟨_, _, _, rfl, ‹_›, rfl⟩

theorem seqF_err {r : Flags × Except Panic (List Guard)} {k : Flags → Flags × Except Panic (List Guard)}
    {fl' : Flags} {e : Panic} (h : seqF r k = (fl', .error e)) :
    r = (fl', .error e) ∨ ∃ fl1 g1 fl2, r = (fl1, .ok g1) ∧ k fl1 = (fl2, .error e) ∧ fl' = drop fl2 g1 := by
  unfold seqF at h
  split at h
  · cases h; exact Or.inl rfl
  · split at h <;> cases h
    exact Or.inr ⟨_, _, _, rfl, ‹_›, rfl⟩

theorem seqF_ok_nil (r : Flags × Except Panic (List Guard)) : seqF r (fun fl => (fl, .ok [])) = r := by
  rcases r with ⟨fl, e | g⟩ <;> simp [seqF]

theorem seqF_assoc (r : Flags × Except Panic (List Guard)) (k1 k2 : Flags → Flags × Except Panic (List Guard)) :
    seqF (seqF r k1) k2 = seqF r (fun fl => seqF (k1 fl) k2) := by
  obtain ⟨fl1, r1⟩ := r
  cases r1 with
  | error e => simp [seqF]
  | ok g1 =>
    simp only [seqF]
    rcases h1 : k1 fl1 with ⟨fl2, r2⟩
    cases r2 with
    | error e => simp
    | ok g2 =>
      simp only []
      rcases h2 : k2 fl2 with ⟨fl3, r3⟩
      cases r3 with
      -- the third fetch fails: one side drops `g2` then `g1` from `fl3`, the other `g1 ++ g2`
      | error e => simp [drop_append]; exact drop_comm _ _ _
      | ok g3 => simp

theorem fetchA_cons (p : Tag → Bool) (a : Acc) (as : List Acc) (fl : Flags) :
    fetchA p (a :: as) fl = seqF (fetch1 p a fl) (fetchA p as) := by
  simp only [fetchA, seqF]

theorem fetchL_cons (p : Tag → Bool) (m : SD) (ms : List SD) (fl : Flags) :
    fetchL p (m :: ms) fl = seqF (fetch p m fl) (fetchL p ms) :=
  rfl

theorem fetchA_singleton (p : Tag → Bool) (a : Acc) (fl : Flags) : fetchA p [a] fl = fetch1 p a fl :=
  seqF_ok_nil _

theorem fetchA_append (p : Tag → Bool) (xs ys : List Acc) (fl : Flags) :
    fetchA p (xs ++ ys) fl = seqF (fetchA p xs fl) (fetchA p ys) := by
  induction xs generalizing fl with
  | nil =>
    simp only [List.nil_append, fetchA, seqF]
    rcases fetchA p ys fl with ⟨fl2, r⟩
    cases r <;> simp [drop]
  | cons a xs ih =>
    rw [List.cons_append, fetchA_cons, fetchA_cons, seqF_assoc]
    congr 1
    funext fl1
    exact ih fl1

mutual
theorem fetch_flat (p : Tag → Bool) : ∀ (sd : SD) (fl : Flags), fetch p sd fl = fetchA p (leaves sd) fl
  | .leaf e _ t, fl => (fetchA_singleton p ⟨t, e, false⟩ fl).symm
  | .opt e _ t, fl => (fetchA_singleton p ⟨t, e, true⟩ fl).symm
  | .unit, _ => rfl
  | .phantom, _ => rfl
  | .tuple ms, fl => fetchL_flat p ms fl
  | .struct ms, fl => fetchL_flat p ms fl
theorem fetchL_flat (p : Tag → Bool) : ∀ (ms : List SD) (fl : Flags), fetchL p ms fl = fetchA p (leavesL ms) fl
  | [], _ => rfl
  | m :: ms, fl => by
    rw [fetchL_cons, leavesL, fetchA_append, fetch_flat p m fl, funext (fetchL_flat p ms)]
end

/-- tags read by a leaf sequence (what `reads()` reports) -/
def rTags (as : List Acc) : List Tag := (as.filter fun a => !a.excl).map (·.tag)
/-- tags written by a leaf sequence (what `writes()` reports) -/
def wTags (as : List Acc) : List Tag := (as.filter fun a => a.excl).map (·.tag)
def reqTags (as : List Acc) : List Tag := (as.filter fun a => !a.optional).map (·.tag)

theorem rTags_append (xs ys : List Acc) : rTags (xs ++ ys) = rTags xs ++ rTags ys := by simp [rTags]
theorem wTags_append (xs ys : List Acc) : wTags (xs ++ ys) = wTags xs ++ wTags ys := by simp [wTags]

theorem rTags_cons (a : Acc) (as : List Acc) :
    rTags (a :: as) = if a.excl then rTags as else a.tag :: rTags as := by
  cases h : a.excl <;> simp [rTags, h]
theorem wTags_cons (a : Acc) (as : List Acc) :
    wTags (a :: as) = if a.excl then a.tag :: wTags as else wTags as := by
  cases h : a.excl <;> simp [wTags, h]
theorem reqTags_cons (a : Acc) (as : List Acc) :
    reqTags (a :: as) = if a.optional then reqTags as else a.tag :: reqTags as := by
  cases h : a.optional <;> simp [reqTags, h]

/-- an access of kind `e` counts as `(!e).toNat` reads and `e.toNat` writes of its resource -/
theorem count_rTags_cons (a : Acc) (as : List Acc) (t : Tag) :
    (rTags (a :: as)).count t = (rTags as).count t + if a.tag = t then (!a.excl).toNat else 0 := by
  rw [rTags_cons]; cases a.excl <;> simp [List.count_cons]
theorem count_wTags_cons (a : Acc) (as : List Acc) (t : Tag) :
    (wTags (a :: as)).count t = (wTags as).count t + if a.tag = t then a.excl.toNat else 0 := by
  rw [wTags_cons]; cases a.excl <;> simp [List.count_cons]

theorem count_cons_ne {a : Acc} {t : Tag} (h : a.tag ≠ t) (as : List Acc) :
    (rTags (a :: as)).count t = (rTags as).count t ∧ (wTags (a :: as)).count t = (wTags as).count t := by
  rw [count_rTags_cons, count_wTags_cons, if_neg h, if_neg h]
  exact ⟨rfl, rfl⟩

theorem mem_reqTags_cons {t : Tag} {a : Acc} {as : List Acc} :
    t ∈ reqTags (a :: as) ↔ (a.optional = false ∧ t = a.tag) ∨ t ∈ reqTags as := by
  rw [reqTags_cons]; cases a.optional <;> simp

mutual
theorem reads_flat : ∀ sd : SD, reads sd = rTags (leaves sd)
  | .leaf e _ t => by cases e <;> rfl
  | .opt e _ t => by cases e <;> rfl
  | .unit => rfl
  | .phantom => rfl
  | .tuple ms => readsL_flat ms
  | .struct ms => readsL_flat ms
theorem readsL_flat : ∀ ms : List SD, readsL ms = rTags (leavesL ms)
  | [] => rfl
  | m :: ms => by rw [readsL, leavesL, rTags_append, reads_flat m, readsL_flat ms]
end

mutual
theorem writes_flat : ∀ sd : SD, writes sd = wTags (leaves sd)
  | .leaf e _ t => by cases e <;> rfl
  | .opt e _ t => by cases e <;> rfl
  | .unit => rfl
  | .phantom => rfl
  | .tuple ms => writesL_flat ms
  | .struct ms => writesL_flat ms
theorem writesL_flat : ∀ ms : List SD, writesL ms = wTags (leavesL ms)
  | [] => rfl
  | m :: ms => by rw [writesL, leavesL, wTags_append, writes_flat m, writesL_flat ms]
end

/-- The four ways a leaf access ends: the resource is present and the borrow is granted or refused, or it
is absent and the leaf is optional or not. -/
theorem fetch1_cases (p : Tag → Bool) (a : Acc) (fl : Flags) :
    (p a.tag = true ∧ ∃ b, tryBorrow (fl a.tag) a.excl = some b ∧
      fetch1 p a fl = (upd fl a.tag b, .ok [⟨a.tag, a.excl⟩])) ∨
    (p a.tag = true ∧ tryBorrow (fl a.tag) a.excl = none ∧ fetch1 p a fl = (fl, .error (.borrowed a.tag))) ∨
    (p a.tag = false ∧ a.optional = true ∧ fetch1 p a fl = (fl, .ok [])) ∨
    (p a.tag = false ∧ a.optional = false ∧ fetch1 p a fl = (fl, .error (.absent a.tag))) := by
  unfold fetch1 borrow1
  cases p a.tag with
  | true =>
    cases hb : tryBorrow (fl a.tag) a.excl with
    | some b => exact .inl ⟨rfl, b, rfl, rfl⟩
    | none => exact .inr (.inl ⟨rfl, rfl, rfl⟩)
  | false =>
    cases a.optional with
    | true => exact .inr (.inr (.inl ⟨rfl, rfl, rfl⟩))
    | false => exact .inr (.inr (.inr ⟨rfl, rfl, rfl⟩))

theorem fetch1_ok {p : Tag → Bool} {a : Acc} {fl fl1 : Flags} {g : List Guard}
    (h : fetch1 p a fl = (fl1, .ok g)) :
    (p a.tag = true ∧ ∃ b, tryBorrow (fl a.tag) a.excl = some b ∧ fl1 = upd fl a.tag b ∧ g = [⟨a.tag, a.excl⟩]) ∨
    (p a.tag = false ∧ a.optional = true ∧ fl1 = fl ∧ g = []) := by
  rcases fetch1_cases p a fl with ⟨hp, b, hb, he⟩ | ⟨_, _, he⟩ | ⟨hp, ho, he⟩ | ⟨_, _, he⟩ <;>
    rw [he] at h <;> cases h
  · exact .inl ⟨hp, b, hb, rfl, rfl⟩
  · exact .inr ⟨hp, ho, rfl, rfl⟩

theorem fetch1_err {p : Tag → Bool} {a : Acc} {fl fl1 : Flags} {e : Panic}
    (h : fetch1 p a fl = (fl1, .error e)) :
    fl1 = fl ∧ ((p a.tag = true ∧ tryBorrow (fl a.tag) a.excl = none ∧ e = .borrowed a.tag) ∨
      (p a.tag = false ∧ a.optional = false ∧ e = .absent a.tag)) := by
  rcases fetch1_cases p a fl with ⟨_, _, _, he⟩ | ⟨hp, hb, he⟩ | ⟨_, _, he⟩ | ⟨hp, ho, he⟩ <;>
    rw [he] at h <;> cases h
  · exact ⟨rfl, .inl ⟨hp, hb, rfl⟩⟩
  · exact ⟨rfl, .inr ⟨hp, ho, rfl⟩⟩

theorem fetch1_ok_drop {p : Tag → Bool} {a : Acc} {fl fl' : Flags} {gs : List Guard}
    (h : fetch1 p a fl = (fl', .ok gs)) : drop fl' gs = fl := by
  rcases fetch1_ok h with ⟨-, b, hb, rfl, rfl⟩ | ⟨-, -, rfl, rfl⟩
  · funext t
    by_cases ht : t = a.tag
    · simp [drop, release1, modify, upd, ht, dec_tryBorrow hb]
    · simp [drop, release1, modify, upd, ht]
  · rfl

/-- the guards of the present resources among the leaves, in order -/
def guardsOf (p : Tag → Bool) (as : List Acc) : List Guard :=
  (as.filter fun a => p a.tag).map fun a => ⟨a.tag, a.excl⟩

theorem guardsOf_cons (p : Tag → Bool) (a : Acc) (as : List Acc) :
    guardsOf p (a :: as) = if p a.tag then ⟨a.tag, a.excl⟩ :: guardsOf p as else guardsOf p as := by
  cases h : p a.tag <;> simp [guardsOf, h]

theorem guardsOf_perm (p : Tag → Bool) (as : List Acc) :
    (guardsOf p as).Perm
      (((rTags as).filter p).map (fun t => (⟨t, false⟩ : Guard)) ++
       ((wTags as).filter p).map (fun t => (⟨t, true⟩ : Guard))) := by
  induction as with
  | nil => simp [guardsOf, rTags, wTags]
  | cons a as ih =>
    rw [guardsOf_cons, rTags_cons, wTags_cons]
    cases hp : p a.tag <;> cases a.excl <;> simp only [List.filter_cons, hp, List.map_cons,
      if_true, if_false, Bool.false_eq_true, List.cons_append] at ih ⊢
    · exact ih                                          -- absent: no guard, and filtered out on the right
    · exact ih
    · exact ih.cons _                                   -- present, read: the head on both sides
    · exact (ih.cons _).trans List.perm_middle.symm     -- present, written: the head of the second half

/-- resource `t` cannot be borrowed as declared: it is written while borrowed at all, read
while borrowed exclusively, both read and written, or written twice -/
def Conflict (fl : Flags) (rs ws : List Tag) (t : Tag) : Prop :=
  (t ∈ ws ∧ fl t ≠ .free) ∨ (t ∈ rs ∧ fl t = .excl) ∨ (t ∈ ws ∧ t ∈ rs) ∨ 2 ≤ ws.count t

/-- a cell in state `b` cannot take `r` more shared and `w` more exclusive borrows -/
def Clash : Borrow → Nat → Nat → Prop
  | .free, r, w => 2 ≤ w ∨ (0 < w ∧ 0 < r)
  | .shared _, _, w => 0 < w
  | .excl, r, w => 0 < w ∨ 0 < r

theorem conflict_iff_clash {fl : Flags} {rs ws : List Tag} {t : Tag} :
    Conflict fl rs ws t ↔ Clash (fl t) (rs.count t) (ws.count t) := by
  -- membership read as a positive count (`r`, `w`), then by the state of the cell
  simp only [Conflict, ← List.count_pos_iff]
  generalize rs.count t = r, ws.count t = w, fl t = b
  have pos (h : 2 ≤ w) : 0 < w := Nat.lt_of_lt_of_le Nat.zero_lt_two h
  cases b with
  | free =>
    -- `free ≠ free` and `free = excl` are false; the other two disjuncts are `Clash`'s, in the other order
    constructor
    · rintro (⟨-, h⟩ | ⟨-, h⟩ | h | h)
      · exact absurd rfl h
      · cases h
      · exact .inr h
      · exact .inl h
    · rintro (h | h)
      · exact .inr (.inr (.inr h))
      · exact .inr (.inr (.inl h))
  | shared n =>
    -- `shared n ≠ free` holds and `shared n = excl` does not: the first disjunct is `0 < w`, which each of
    -- the last two implies
    constructor
    · rintro (⟨h, -⟩ | ⟨-, h⟩ | ⟨h, -⟩ | h)
      · exact h
      · cases h
      · exact h
      · exact pos h
    · exact fun h => .inl ⟨h, nofun⟩
  | excl =>
    -- the first two disjuncts are `0 < w` and `0 < r`; each of the last two implies `0 < w`
    constructor
    · rintro (⟨h, -⟩ | ⟨h, -⟩ | ⟨h, -⟩ | h)
      · exact .inl h
      · exact .inr h
      · exact .inl h
      · exact .inl (pos h)
    · rintro (h | h)
      · exact .inl ⟨h, nofun⟩
      · exact .inr (.inl ⟨h, rfl⟩)

theorem Clash.zero (b : Borrow) : ¬ Clash b 0 0 := by cases b <;> simp [Clash]

theorem Clash.step {b b' : Borrow} {e : Bool} (h : tryBorrow b e = some b') (r w : Nat) :
    Clash b (r + (!e).toNat) (w + e.toNat) = Clash b' r w := by
  rcases tryBorrow_some h with ⟨rfl, rfl, rfl⟩ | ⟨n, rfl, rfl, rfl⟩ | ⟨rfl, rfl, rfl⟩
  · -- a read of a free cell: of `2 ≤ w ∨ (0 < w ∧ 0 < r + 1)`, `0 < w` is what is left
    exact propext
      ⟨fun h => h.elim (Nat.lt_of_lt_of_le Nat.zero_lt_two) And.left, fun h => .inr ⟨h, Nat.succ_pos r⟩⟩
  · rfl
  · -- a write of a free cell: `2 ≤ w + 1 ∨ (0 < w + 1 ∧ 0 < r)` is `0 < w ∨ 0 < r`
    exact propext (or_congr Nat.succ_le_succ_iff (and_iff_right (Nat.succ_pos w)))

theorem Clash.of_none {b : Borrow} {e : Bool} (h : tryBorrow b e = none) (r w : Nat) :
    Clash b (r + (!e).toNat) (w + e.toNat) := by
  -- the refused access is itself the `0 < r + 1` or `0 < w + 1` that `Clash` asks for
  cases e
  · rw [tryBorrow_shared_none.mp h]; exact .inr (Nat.succ_pos r)
  · cases b with
    | free => exact absurd rfl (tryBorrow_excl_none.mp h)
    | shared _ => exact Nat.succ_pos w
    | excl => exact .inl (Nat.succ_pos w)

/-- `n` more shared borrows on a cell -/
def addShared (b : Borrow) (n : Nat) : Borrow :=
  if n = 0 then b else
  match b with
  | .free => .shared (n - 1)
  | .shared k => .shared (k + n)
  | .excl => .excl

/-- flag of a cell on which `r` shared and `w` exclusive guards were taken successfully -/
def flagAfter (b : Borrow) (r w : Nat) : Borrow := if w = 0 then addShared b r else .excl

theorem addShared_succ {b b' : Borrow} (h : tryBorrow b false = some b') (r : Nat) :
    addShared b (r + 1) = addShared b' r := by
  -- `b'` counts one guard more, `r` one fewer; `r = 0` apart because `addShared _ 0` is the identity
  rcases tryBorrow_some h with ⟨rfl, -, rfl⟩ | ⟨n, rfl, -, rfl⟩ | ⟨-, he, -⟩
  · by_cases hr : r = 0 <;> simp [addShared, hr]
  · by_cases hr : r = 0 <;> simp [addShared, hr]
    omega
  · cases he

theorem flagAfter_step {b b' : Borrow} {e : Bool} (h : tryBorrow b e = some b') (r w : Nat) :
    flagAfter b (r + (!e).toNat) (w + e.toNat) = flagAfter b' r w := by
  cases e with
  | false => simp [flagAfter, addShared_succ h]
  | true => obtain ⟨rfl, rfl⟩ := tryBorrow_excl_some.mp h; simp [flagAfter, addShared]

@[simp] theorem flagAfter_zero (b : Borrow) : flagAfter b 0 0 = b := by simp [flagAfter, addShared]

theorem flagAfter_of_write {b : Borrow} {r w : Nat} (h : ¬ Clash b r w) (hw : 0 < w) :
    flagAfter b r w = .excl ∧ b = .free ∧ w = 1 ∧ r = 0 := by
  cases b with
  | free =>
    -- a second write, or a read next to the write, would clash
    have h1 : w = 1 := Nat.le_antisymm (Nat.le_of_lt_succ (Nat.lt_of_not_le fun h2 => h (.inl h2))) hw
    have h0 : r = 0 := Nat.eq_zero_of_not_pos fun hr => h (.inr ⟨hw, hr⟩)
    exact ⟨if_neg (Nat.ne_of_gt hw), rfl, h1, h0⟩
  | shared n => exact absurd hw h
  | excl => exact absurd (Or.inl hw) h

theorem flagAfter_of_read {b : Borrow} {r w : Nat} (h : ¬ Clash b r w) (hr : 0 < r) :
    flagAfter b r w = addShared b r ∧ b ≠ .excl ∧ w = 0 := by
  -- in every state of the cell a write next to this read would clash
  have hw : w = 0 := Nat.eq_zero_of_not_pos fun hw => h <| by
    cases b with
    | free => exact .inr ⟨hw, hr⟩
    | shared _ => exact hw
    | excl => exact .inl hw
  refine ⟨if_pos hw, ?_, hw⟩
  rintro rfl
  exact h (Or.inr hr)

/-- Carrying out the head access leaves unchanged whatever is computed per cell from its state and the
reads and writes of it still to come. -/
theorem cell_cons {α : Sort _} (F : Borrow → Nat → Nat → α)
    (hF : ∀ {b b' e}, tryBorrow b e = some b' → ∀ r w, F b (r + (!e).toNat) (w + e.toNat) = F b' r w)
    {fl : Flags} {a : Acc} {b : Borrow} (hb : tryBorrow (fl a.tag) a.excl = some b) (as : List Acc) (t : Tag) :
    F (fl t) ((rTags (a :: as)).count t) ((wTags (a :: as)).count t) =
      F (upd fl a.tag b t) ((rTags as).count t) ((wTags as).count t) := by
  by_cases h : t = a.tag
  · subst h
    rw [count_rTags_cons, count_wTags_cons]
    simpa [upd] using hF hb _ _
  · obtain ⟨er, ew⟩ := count_cons_ne (Ne.symm h) as
    rw [er, ew, upd, if_neg h]

theorem ne_of_absent {p : Tag → Bool} {s t : Tag} (hs : p s = false) (ht : p t = true) : s ≠ t :=
  fun e => Bool.false_ne_true (hs.symm.trans (e ▸ ht))

/-- what a panic payload claims: the named resource is required and absent / present and in conflict -/
def PanicReason (p : Tag → Bool) (fl : Flags) (rq rs ws : List Tag) : Panic → Prop
  | .absent t => t ∈ rq ∧ p t = false
  | .borrowed t => p t = true ∧ Conflict fl rs ws t

theorem fetchA_ok {p : Tag → Bool} {as : List Acc} {fl fl' : Flags} {gs : List Guard}
    (h : fetchA p as fl = (fl', .ok gs)) :
    gs = guardsOf p as ∧ drop fl' gs = fl ∧ (∀ t ∈ reqTags as, p t = true) ∧
    (∀ t, p t = false → fl' t = fl t) ∧
    ∀ t, p t = true → ¬ Clash (fl t) ((rTags as).count t) ((wTags as).count t) ∧
      fl' t = flagAfter (fl t) ((rTags as).count t) ((wTags as).count t) := by
  induction as generalizing fl fl' gs with
  | nil =>
    cases h
    exact ⟨rfl, rfl, nofun, fun _ _ => rfl, fun t _ => ⟨Clash.zero _, (flagAfter_zero _).symm⟩⟩
  | cons a as ih =>
    rw [fetchA_cons] at h
    obtain ⟨fl1, g1, g2, h1, h2, rfl⟩ := seqF_ok h
    obtain ⟨ihg, ihd, ihr, iha, ihp⟩ := ih h2
    have hd : drop fl' (g1 ++ g2) = fl := by rw [drop_append, drop_comm, ihd, fetch1_ok_drop h1]
    rw [guardsOf_cons]
    rcases fetch1_ok h1 with ⟨hp, b, hb, rfl, rfl⟩ | ⟨hp, ho, rfl, rfl⟩
    · -- the head is carried out: its cell takes one unit from the counts (`cell_cons`); no absent cell is it
      refine ⟨by rw [if_pos hp, ihg]; rfl, hd, fun t ht => ?_, fun t ht => ?_, fun t ht => ?_⟩
      · rcases mem_reqTags_cons.mp ht with ⟨-, rfl⟩ | ht
        · exact hp
        · exact ihr t ht
      · exact (iha t ht).trans (if_neg (ne_of_absent ht hp))
      · rw [cell_cons Clash Clash.step hb, cell_cons flagAfter flagAfter_step hb]
        exact ihp t ht
    · -- the head is skipped: no flag changes, and its resource, being absent, is no present cell's
      refine ⟨by rw [if_neg (hp ▸ Bool.false_ne_true)]; exact ihg, hd, fun t ht => ?_, iha, fun t ht => ?_⟩
      · rcases mem_reqTags_cons.mp ht with ⟨ho', -⟩ | ht
        · exact Bool.noConfusion (ho.symm.trans ho')
        · exact ihr t ht
      · obtain ⟨er, ew⟩ := count_cons_ne (ne_of_absent hp ht) as
        rw [er, ew]
        exact ihp t ht

theorem fetchA_err {p : Tag → Bool} {as : List Acc} {fl fl' : Flags} {e : Panic}
    (h : fetchA p as fl = (fl', .error e)) :
    fl' = fl ∧ PanicReason p fl (reqTags as) (rTags as) (wTags as) e := by
  induction as generalizing fl fl' with
  | nil => cases h
  | cons a as ih =>
    rw [fetchA_cons] at h
    rcases seqF_err h with h1 | ⟨fl1, g1, fl2, h1, h2, rfl⟩
    · obtain ⟨rfl, hh⟩ := fetch1_err h1
      refine ⟨rfl, ?_⟩
      rcases hh with ⟨hp, hb, rfl⟩ | ⟨hp, ho, rfl⟩
      · refine ⟨hp, conflict_iff_clash.mpr ?_⟩
        rw [count_rTags_cons, count_wTags_cons]
        simpa using Clash.of_none hb _ _
      · exact ⟨mem_reqTags_cons.mpr (.inl ⟨ho, rfl⟩), hp⟩
    · obtain ⟨rfl, ihp⟩ := ih h2
      refine ⟨fetch1_ok_drop h1, ?_⟩
      cases e with
      | absent t => exact ⟨mem_reqTags_cons.mpr (.inr ihp.1), ihp.2⟩
      | borrowed t =>
        refine ⟨ihp.1, ?_⟩
        rcases fetch1_ok h1 with ⟨hp, b, hb, rfl, rfl⟩ | ⟨hp, ho, rfl, rfl⟩
        · rw [conflict_iff_clash, cell_cons Clash Clash.step hb]
          exact conflict_iff_clash.mp ihp.2
        · obtain ⟨er, ew⟩ := count_cons_ne (ne_of_absent hp ihp.1) as
          rw [conflict_iff_clash, er, ew]
          exact conflict_iff_clash.mp ihp.2

/-- What a `fetch` that returned has established, in terms of `required()`, `reads()`, `writes()`. -/
structure Fetched (p : Tag → Bool) (sd : SD) (fl fl' : Flags) (gs : List Guard) : Prop where
  guards : gs = guardsOf p (leaves sd)
  drop : drop fl' gs = fl
  required : ∀ t ∈ required sd, p t = true
  noClash : ∀ t, p t = true → ¬ Clash (fl t) ((reads sd).count t) ((writes sd).count t)
  cell : ∀ t, fl' t = if p t then flagAfter (fl t) ((reads sd).count t) ((writes sd).count t) else fl t

theorem fetch_ok {p : Tag → Bool} {sd : SD} {fl fl' : Flags} {gs : List Guard}
    (h : fetch p sd fl = (fl', .ok gs)) : Fetched p sd fl fl' gs := by
  rw [fetch_flat] at h
  obtain ⟨hg, hd, hr, ha, hp⟩ := fetchA_ok h
  refine { guards := hg, drop := hd, required := hr, noClash := fun t ht => ?_, cell := fun t => ?_ }
  · rw [reads_flat, writes_flat]
    exact (hp t ht).1
  · rw [reads_flat, writes_flat]
    cases ht : p t with
    | true => exact (hp t ht).2.trans (if_pos rfl).symm
    | false => exact (ha t ht).trans (if_neg Bool.false_ne_true).symm

theorem fetch_err {p : Tag → Bool} {sd : SD} {fl fl' : Flags} {e : Panic}
    (h : fetch p sd fl = (fl', .error e)) :
    fl' = fl ∧ PanicReason p fl (required sd) (reads sd) (writes sd) e := by
  rw [fetch_flat] at h
  rw [reads_flat, writes_flat]
  exact fetchA_err h

/-- the leaf setup actions of a handler sequence, left to right -/
def setupH (henv : HEnv) (dv : Tag → Nat) (hs : List (Handler × Tag)) (w : Vals) : Vals :=
  hs.foldl (fun w p => setupLeaf henv dv p.1 p.2 w) w

theorem setupH_append (henv : HEnv) (dv : Tag → Nat) (xs ys : List (Handler × Tag)) (w : Vals) :
    setupH henv dv (xs ++ ys) w = setupH henv dv ys (setupH henv dv xs w) := by
  simp [setupH]

mutual
theorem setup_flat (henv : HEnv) (dv : Tag → Nat) :
    ∀ (sd : SD) (w : Vals), setup henv dv sd w = setupH henv dv (handlers sd) w
  | .leaf _ _ _, _ => rfl
  | .opt _ _ _, _ => rfl
  | .unit, _ => rfl
  | .phantom, _ => rfl
  | .tuple ms, w => setupL_flat henv dv ms w
  | .struct ms, w => setupL_flat henv dv ms w
theorem setupL_flat (henv : HEnv) (dv : Tag → Nat) :
    ∀ (ms : List SD) (w : Vals), setupL henv dv ms w = setupH henv dv (handlersL ms) w
  | [], _ => rfl
  | m :: ms, w => by
    rw [setupL, handlersL, setupH_append, setup_flat henv dv m w, setupL_flat henv dv ms]
end

theorem setupL_foldl (henv : HEnv) (dv : Tag → Nat) (ms : List SD) (w : Vals) :
    setupL henv dv ms w = ms.foldl (fun w m => setup henv dv m w) w := by
  induction ms generalizing w with
  | nil => simp [setupL]
  | cons m ms ih => simp [setupL, ih]

theorem readsL_flatMap (ms : List SD) : readsL ms = ms.flatMap reads := by
  induction ms with
  | nil => simp [readsL]
  | cons m ms ih => simp [readsL, ih]

theorem writesL_flatMap (ms : List SD) : writesL ms = ms.flatMap writes := by
  induction ms with
  | nil => simp [writesL]
  | cons m ms ih => simp [writesL, ih]

theorem mem_defaults {sd : SD} {t : Tag} : t ∈ defaults sd ↔ (Handler.dflt, t) ∈ handlers sd := by
  simp only [defaults, List.mem_map, List.mem_filter, beq_iff_eq]
  exact ⟨fun ⟨⟨_, _⟩, ⟨hm, rfl⟩, rfl⟩ => hm, fun hm => ⟨_, ⟨hm, rfl⟩, rfl⟩⟩

/-- `f` never changes (or removes) a resource that is present -/
def Preserves (f : Vals → Vals) : Prop := ∀ w t v, w t = some v → f w t = some v

/-- `f` never removes a resource -/
def KeepsPresent (f : Vals → Vals) : Prop := ∀ w t, (w t).isSome = true → (f w t).isSome = true

theorem Preserves.keeps {f : Vals → Vals} (h : Preserves f) : KeepsPresent f := by
  intro w t ht
  cases hv : w t with
  | none => simp [hv] at ht
  | some v => simp [h w t v hv]

theorem setupLeaf_dflt_preserves (henv : HEnv) (dv : Tag → Nat) (t : Tag) :
    Preserves (setupLeaf henv dv .dflt t) := by
  intro w t' v hv
  simp only [setupLeaf, modify]
  by_cases ht : t' = t
  · simp [ht] at hv ⊢; simp [hv]
  · simp [ht, hv]

theorem setupLeaf_dflt_creates (henv : HEnv) (dv : Tag → Nat) (t : Tag) (w : Vals) :
    (setupLeaf henv dv .dflt t w t).isSome = true := by
  simp only [setupLeaf, modify]
  cases w t <;> simp

def CustomAll (henv : HEnv) (P : (Vals → Vals) → Prop) (hs : List (Handler × Tag)) : Prop :=
  ∀ k t, (Handler.custom k, t) ∈ hs → P (henv k t)

/-- `hid` is the case of `PanicHandler`, `hd` that of `DefaultProvider`. -/
theorem setupH_all {P : (Vals → Vals) → Prop} (henv : HEnv) (dv : Tag → Nat)
    (hid : P id) (hcomp : ∀ {f g}, P f → P g → P (g ∘ f)) (hd : ∀ t, P (setupLeaf henv dv .dflt t))
    (hs : List (Handler × Tag)) (hc : CustomAll henv P hs) : P (setupH henv dv hs) := by
  induction hs with
  | nil => exact hid
  | cons x hs ih =>
    have hx : P (setupLeaf henv dv x.1 x.2) := by
      obtain ⟨h, t⟩ := x
      cases h with
      | dflt => exact hd t
      | expect => exact hid
      | custom k => exact hc k t (by simp)
    exact hcomp hx (ih fun k t h => hc k t (List.mem_cons_of_mem _ h))

theorem setupH_preserves (henv : HEnv) (dv : Tag → Nat) (hs : List (Handler × Tag))
    (hc : CustomAll henv Preserves hs) : Preserves (setupH henv dv hs) :=
  setupH_all henv dv (fun _ _ _ h => h) (fun hf hg w t v h => hg _ t v (hf w t v h))
    (setupLeaf_dflt_preserves henv dv) hs hc

theorem setupH_keeps (henv : HEnv) (dv : Tag → Nat) (hs : List (Handler × Tag))
    (hc : CustomAll henv KeepsPresent hs) : KeepsPresent (setupH henv dv hs) :=
  setupH_all henv dv (fun _ _ h => h) (fun hf hg w t h => hg _ t (hf w t h))
    (fun t => (setupLeaf_dflt_preserves henv dv t).keeps) hs hc

theorem setupH_creates (henv : HEnv) (dv : Tag → Nat) (hs : List (Handler × Tag))
    (hc : CustomAll henv KeepsPresent hs) (t : Tag) (ht : (Handler.dflt, t) ∈ hs) (w : Vals) :
    (setupH henv dv hs w t).isSome = true := by
  induction hs generalizing w with
  | nil => simp at ht
  | cons x hs ih =>
    have hrest : CustomAll henv KeepsPresent hs := fun k t h => hc k t (List.mem_cons_of_mem _ h)
    show (setupH henv dv hs (setupLeaf henv dv x.1 x.2 w) t).isSome = true
    rcases List.mem_cons.mp ht with rfl | ht
    · exact setupH_keeps henv dv hs hrest _ t (setupLeaf_dflt_creates henv dv t w)
    · exact ih hrest ht _

theorem stdEnv_keeps_unless_del (k : Nat) (t : Tag) (hk : k ≠ 3) : KeepsPresent (stdEnv k t) := by
  intro w t' hv
  unfold stdEnv
  split
  · simp only [modify]
    by_cases ht : t' = t
    · simp [ht] at hv ⊢
      cases w t <;> simp
    · simp [ht, hv]
  · by_cases h : t' = t <;> simp [upd, h, hv]
  · exact absurd rfl hk
  · exact hv

end Shred.SysData
