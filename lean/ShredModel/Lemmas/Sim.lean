import ShredModel.Lemmas.ZipMore
/-!
# The mirrored five-table builder is an instance of the zipped one

`unzip z` is the five-table builder whose tables are the five projections of the zipped
table. Every operation of `StagesBuilder` commutes with `unzip` (`unzip_insert`: an equation,
for every `z`), because `Table.proj` commutes with the table operations. `Zips b z`, the
cell-wise relation between the two, says exactly that `b = unzip z` and that the barrier lies
within the table (`zips_iff`); hence `Zips` is an invariant of `insert` / `addBarrier`, and every
theorem of `Zip.lean` and `ZipMore.lean` speaks about the tables the Rust code really maintains
(`ids` = what `Debug` prints, `stages` = what is executed).
-/
namespace Shred

theorem any_range_eq (st : ZStage) (p : ZGroup → Bool) :
    (List.range st.length).any (fun i => match st[i]? with | some g => p g | none => false) = st.any p := by
  rw [Bool.eq_iff_iff]
  simp only [List.any_eq_true, List.mem_range]
  constructor
  · rintro ⟨i, hi, h⟩
    simp [List.getElem?_eq_getElem hi] at h
    exact ⟨st[i], List.getElem_mem hi, h⟩
  · rintro ⟨g, hg, h⟩
    obtain ⟨i, hi, rfl⟩ := List.getElem_of_mem hg
    exact ⟨i, hi, by simp [List.getElem?_eq_getElem hi, h]⟩

theorem findConflictCols_eq (st : ZStage) (nr nw : List ResId) (dep : List Nat) :
    StagesBuilder.findConflictCols (st.map (·.ids)) (st.map (·.reads)) (st.map (·.writes)) nr nw dep
      = zFindConflict st nr nw dep := by
  -- at an index in range, the three columns hold the three fields of the group there
  have hcol : ∀ i, i ∈ List.range st.length → ∃ g, st[i]? = some g ∧ (st.map (·.reads)).getD i [] = g.reads ∧
      (st.map (·.writes)).getD i [] = g.writes ∧ (st.map (·.ids)).getD i [] = g.ids := by
    intro i hi
    have hi' : i < st.length := List.mem_range.mp hi
    have hg : st[i]? = some st[i] := List.getElem?_eq_getElem hi'
    exact ⟨_, hg, getD_map st _ i _ _ hg, getD_map st _ i _ _ hg, getD_map st _ i _ _ hg⟩
  unfold StagesBuilder.findConflictCols zFindConflict
  simp only [List.length_map]
  have hhits : ((List.range st.length).filter fun g =>
        hit nr nw ((st.map (·.reads)).getD g []) ((st.map (·.writes)).getD g [])
          || inter dep ((st.map (·.ids)).getD g [])) = zHits st nr nw dep :=
    List.filter_congr fun i hi => by
      obtain ⟨g, hg, h1, h2, h3⟩ := hcol i hi
      rw [h1, h2, h3, hg]; rfl
  have hdc : ((List.range st.length).any fun g =>
        !hit nr nw ((st.map (·.reads)).getD g []) ((st.map (·.writes)).getD g [])
          && inter dep ((st.map (·.ids)).getD g [])) = zDepConflict st nr nw dep := by
    rw [zDepConflict, ← any_range_eq]
    exact any_congr_mem fun i hi => by
      obtain ⟨g, hg, h1, h2, h3⟩ := hcol i hi
      rw [h1, h2, h3, hg]; rfl
  rw [hhits, hdc]

theorem removeIdsCol_eq (st : ZStage) (dep : List Nat) :
    StagesBuilder.removeIdsCol (st.map (·.ids)) dep = zRemoveIds st dep := by
  unfold StagesBuilder.removeIdsCol zRemoveIds
  rw [List.flatMap_def]

/-- the join policy of the mirror, on a zipped stage -/
def zJoinOk (st : ZStage) (g t : Nat) : Bool :=
  StagesBuilder.joinOkCols (st.map (·.sys)) (st.map (·.time)) g t

def emptyG : ZGroup := { ids := [], reads := [], writes := [], time := 0, sys := [] }

theorem emptyG_push (id sys : Nat) (nr : List ResId) (d : Decl) :
    emptyG.push id sys nr d = newGroup id sys nr d := by
  simp [emptyG, ZGroup.push, newGroup]

/-- the five `push`/`extend`/`+=` lines that end `insert` -/
def StagesBuilder.pushAll (b : StagesBuilder) (stage group : Nat) (id : SysId) (sys : SysTag)
    (reads writes : List ResId) (t : Nat) : StagesBuilder :=
  { b with ids := b.ids.update stage group (· ++ [id]),
           reads := b.reads.update stage group (· ++ reads),
           runningTime := b.runningTime.update stage group (· + t),
           stages := b.stages.update stage group (· ++ [sys]),
           writes := b.writes.update stage group (· ++ writes) }

theorem StagesBuilder.insert_eq (b : StagesBuilder) (dep : List SysId) (id : SysId) (sys : SysTag) (d : Decl) :
    b.insert dep id sys d =
      match b.insertionTarget (sortDedup d.reads) d.writes (b.prepDep dep) d.time with
      | .stage s => (b.addGroup s).pushAll s (b.ids.getD s []).length id sys (sortDedup d.reads) d.writes d.time
      | .group s g => b.pushAll s g id sys (sortDedup d.reads) d.writes d.time
      | .newStage =>
        (b.addStage.addGroup b.stages.length).pushAll b.stages.length 0 id sys (sortDedup d.reads) d.writes d.time := by
  unfold insert
  simp only []
  cases b.insertionTarget (sortDedup d.reads) d.writes (b.prepDep dep) d.time <;> rfl

def unzip (z : ZB) : StagesBuilder :=
  { barrier := z.barrier, ids := Table.proj (·.ids) z.stages, reads := Table.proj (·.reads) z.stages,
    runningTime := Table.proj (·.time) z.stages, stages := Table.proj (·.sys) z.stages,
    writes := Table.proj (·.writes) z.stages }

theorem unzip_addStage (z : ZB) :
    (unzip z).addStage = unzip { z with stages := Table.addStage z.stages } := by
  simp only [unzip, StagesBuilder.addStage, Table.proj_addStage]

theorem unzip_addGroup (z : ZB) (s : Nat) :
    (unzip z).addGroup s = unzip { z with stages := Table.addGroup z.stages s emptyG } := by
  simp only [unzip, StagesBuilder.addGroup, Table.proj_addGroup, emptyG]

theorem unzip_pushAll (z : ZB) (s g : Nat) (id sys : Nat) (nr : List ResId) (d : Decl) :
    (unzip z).pushAll s g id sys nr d.writes d.time
      = unzip { z with stages := Table.update z.stages s g (·.push id sys nr d) } := by
  simp only [unzip, StagesBuilder.pushAll]
  congr 1 <;> exact (Table.proj_update _ _ (by intro _; rfl)).symm

theorem unzip_findConflict (z : ZB) (s : Nat) (nr nw : List ResId) (dep : List Nat) :
    (unzip z).findConflict s nr nw dep = zFindConflict (z.stages.getD s []) nr nw dep := by
  simp only [StagesBuilder.findConflict, unzip, Table.getD_proj, findConflictCols_eq]

theorem unzip_removeIds (z : ZB) (s : Nat) (dep : List Nat) :
    (unzip z).removeIds s dep = zRemoveIds (z.stages.getD s []) dep := by
  simp only [StagesBuilder.removeIds, unzip, Table.getD_proj, removeIdsCol_eq]

theorem unzip_joinOk (z : ZB) (s g t : Nat) :
    (unzip z).joinOk s g t = zJoinOk (z.stages.getD s []) g t := by
  simp only [StagesBuilder.joinOk, unzip, Table.getD_proj, zJoinOk]

theorem unzip_scan_cons (z : ZB) (nr nw : List ResId) (t s : Nat) (rest : List Nat) (dep : List Nat) :
    (unzip z).scan nr nw t (s :: rest) dep =
      match zVerdict zJoinOk (z.stages.getD s []) nr nw dep t with
      | .newGroup => .stage s
      | .join g => .group s g
      | .reject => (unzip z).scan nr nw t rest (zRemoveIds (z.stages.getD s []) dep) := by
  rw [StagesBuilder.scan, unzip_findConflict, unzip_removeIds, zVerdict]
  cases zFindConflict (z.stages.getD s []) nr nw dep with
  | none => rfl
  | single g =>
    dsimp only
    rw [unzip_joinOk]
    cases zJoinOk (z.stages.getD s []) g t <;> rfl
  | multiple => rfl

theorem unzip_scan (z : ZB) (nr nw : List ResId) (t : Nat) (n i : Nat) (dep : List Nat)
    (hn : n = z.stages.length - i) :
    (unzip z).scan nr nw t (List.range' i n) dep = zScan zJoinOk nr nw t i (z.stages.drop i) dep := by
  induction n generalizing i dep with
  | zero =>
    rw [List.drop_eq_nil_of_le (Nat.le_of_sub_eq_zero hn.symm), List.range'_zero, StagesBuilder.scan,
      zScan]
  | succ n ih =>
    have hi : i < z.stages.length := Nat.lt_of_sub_pos (hn ▸ Nat.succ_pos n)
    have hn' : n = z.stages.length - (i + 1) := by rw [Nat.sub_add_eq, ← hn, Nat.add_sub_cancel]
    rw [List.range'_succ, List.drop_eq_getElem_cons hi, unzip_scan_cons, zScan, ← List.getElem_eq_getD (h := hi) [], ih (i + 1) _ hn']
    rfl

theorem unzip_prepDep (z : ZB) (dep : List Nat) : (unzip z).prepDep dep = zPrepDep dedup z dep := by
  rw [zPrepDep_eq_pend]
  unfold StagesBuilder.prepDep
  simp only [unzip_removeIds]
  -- `barrier ≤ length` is not assumed: like the code's loop over `0..barrier`, `pend_succ` holds past the
  -- last stage
  show (List.range z.barrier).foldl _ _ = _
  generalize z.barrier = k
  induction k with
  | zero => exact pend_zero.symm
  | succ k ih => rw [List.range_succ, List.foldl_append, ih, pend_succ]; rfl

theorem unzip_insertionTarget (z : ZB) (nr nw : List ResId) (dep : List Nat) (t : Nat) :
    (unzip z).insertionTarget nr nw dep t
      = zScan zJoinOk nr nw t z.barrier (z.stages.drop z.barrier) dep := by
  unfold StagesBuilder.insertionTarget
  exact unzip_scan z nr nw t _ _ dep (by simp only [unzip, Table.length_proj])

theorem unzip_target (z : ZB) (dep : List Nat) (d : Decl) :
    (unzip z).insertionTarget (sortDedup d.reads) d.writes ((unzip z).prepDep dep) d.time
      = z.target zJoinOk dedup dep (sortDedup d.reads) d := by
  rw [unzip_insertionTarget, unzip_prepDep]; rfl

theorem unzip_insert (z : ZB) (dep : List Nat) (id sys : Nat) (d : Decl) :
    (unzip z).insert dep id sys d = unzip (z.insert zJoinOk sortDedup dedup dep id sys d) := by
  rw [StagesBuilder.insert_eq, unzip_target, ZB.insert]
  cases z.target zJoinOk dedup dep (sortDedup d.reads) d with
  | stage s =>
    have hl : ((unzip z).ids.getD s []).length = (z.stages.getD s []).length := by
      simp only [unzip, Table.getD_proj, List.length_map]
    simp only [ZB.place]
    rw [unzip_addGroup, unzip_pushAll, hl, Table.addGroup_update, emptyG_push]
    rfl
  | group s g => exact unzip_pushAll z s g id sys (sortDedup d.reads) d
  | newStage =>
    have hl : (unzip z).stages.length = z.stages.length := Table.length_proj _ _
    simp only [ZB.place]
    rw [hl, unzip_addStage, unzip_addGroup, unzip_pushAll, Table.addStage_addGroup_update, emptyG_push]

theorem unzip_addBarrier (z : ZB) : (unzip z).addBarrier = unzip z.addBarrier := by
  simp only [StagesBuilder.addBarrier, ZB.addBarrier, unzip, Table.length_proj]

structure LockStep (b : StagesBuilder) : Prop where
  reads : b.reads.shape = b.ids.shape
  runningTime : b.runningTime.shape = b.ids.shape
  stages : b.stages.shape = b.ids.shape
  writes : b.writes.shape = b.ids.shape

def cellOf (b : StagesBuilder) (s g : Nat) : Option ZGroup :=
  match b.ids.get? s g, b.reads.get? s g, b.writes.get? s g, b.runningTime.get? s g, b.stages.get? s g with
  | some i, some r, some w, some t, some sy => some { ids := i, reads := r, writes := w, time := t, sys := sy }
  | _, _, _, _, _ => none

/-- the correspondence between the five tables and the zipped view, said position by position and
without `unzip`: one shape, and at every position the five cells are the fields of the zipped group.
It is `b = unzip z` with the barrier inside the table (`zips_iff`). -/
structure Zips (b : StagesBuilder) (z : ZB) : Prop where
  lock : LockStep b
  barrier : z.barrier = b.barrier
  barrier_le : b.barrier ≤ b.ids.length
  shape : Table.shape z.stages = b.ids.shape
  cell : ∀ s g, Table.get? z.stages s g = cellOf b s g

/-- at position `(s, g)` the five tables hold the fields of `c`; none of them has a cell there if `c = none` -/
structure StagesBuilder.CellAt (b : StagesBuilder) (s g : Nat) (c : Option ZGroup) : Prop where
  ids : b.ids.get? s g = c.map (·.ids)
  reads : b.reads.get? s g = c.map (·.reads)
  writes : b.writes.get? s g = c.map (·.writes)
  runningTime : b.runningTime.get? s g = c.map (·.time)
  stages : b.stages.get? s g = c.map (·.sys)

theorem cellOf_eq_some {b : StagesBuilder} {s g : Nat} {c : ZGroup} (h : cellOf b s g = some c) :
    b.CellAt s g (some c) := by
  unfold cellOf at h
  split at h
  · cases h; exact { ids := ‹_›, reads := ‹_›, writes := ‹_›, runningTime := ‹_›, stages := ‹_› }
  · cases h

theorem Zips.cells {b : StagesBuilder} {z : ZB} (hz : Zips b z) (s g : Nat) :
    b.CellAt s g (Table.get? z.stages s g) := by
  have hs := hz.shape.symm
  cases hc : Table.get? z.stages s g with
  | none =>
    -- no cell in `z.stages`, so none in any table of that shape
    exact { ids := Table.get?_none_of_shape hs hc
            reads := Table.get?_none_of_shape (hz.lock.reads.trans hs) hc
            writes := Table.get?_none_of_shape (hz.lock.writes.trans hs) hc
            runningTime := Table.get?_none_of_shape (hz.lock.runningTime.trans hs) hc
            stages := Table.get?_none_of_shape (hz.lock.stages.trans hs) hc }
  | some c => exact cellOf_eq_some ((hz.cell s g).symm.trans hc)

theorem zips_iff {b : StagesBuilder} {z : ZB} :
    Zips b z ↔ b = unzip z ∧ z.barrier ≤ z.stages.length := by
  constructor
  · intro hz
    have hlen := congrArg List.length hz.shape
    rw [Table.shape_length, Table.shape_length] at hlen
    refine ⟨?_, by rw [hz.barrier, hlen]; exact hz.barrier_le⟩
    have hc := hz.cells
    have hs := hz.shape.symm
    have hl := hz.lock
    have h0 := hz.barrier
    obtain ⟨bar, ids, reads, rt, st, wr⟩ := b
    have h1 : ids = _ := Table.eq_proj_of_cells hs fun s g => (hc s g).ids
    have h2 : reads = _ := Table.eq_proj_of_cells (hl.reads.trans hs) fun s g => (hc s g).reads
    have h3 : wr = _ := Table.eq_proj_of_cells (hl.writes.trans hs) fun s g => (hc s g).writes
    have h4 : rt = _ := Table.eq_proj_of_cells (hl.runningTime.trans hs) fun s g => (hc s g).runningTime
    have h5 : st = _ := Table.eq_proj_of_cells (hl.stages.trans hs) fun s g => (hc s g).stages
    have h0 : bar = z.barrier := h0.symm
    rw [h0, h1, h2, h3, h4, h5]
    rfl
  · rintro ⟨rfl, hle⟩
    -- every projection has the shape of `z.stages`
    have sp := fun {β : Type} (f : ZGroup → β) => Table.shape_proj f z.stages
    exact {
      lock := { reads := (sp _).trans (sp _).symm, runningTime := (sp _).trans (sp _).symm,
                stages := (sp _).trans (sp _).symm, writes := (sp _).trans (sp _).symm }
      barrier := rfl
      barrier_le := (Table.length_proj (·.ids) z.stages).symm ▸ hle
      shape := (sp _).symm
      cell := fun s g => by
        simp only [cellOf, unzip, Table.get?_proj]
        cases Table.get? z.stages s g <;> rfl }

theorem zips_init : Zips {} {} := zips_iff.mpr ⟨rfl, Nat.le_refl _⟩

section zips
variable {b : StagesBuilder} {z : ZB} (hz : Zips b z)
include hz

theorem ids_eq_of_zips : b.ids = z.stages.map (fun st => st.map (·.ids)) :=
  congrArg StagesBuilder.ids (zips_iff.mp hz).1

theorem reads_eq_of_zips : b.reads = z.stages.map (fun st => st.map (·.reads)) :=
  congrArg StagesBuilder.reads (zips_iff.mp hz).1

theorem writes_eq_of_zips : b.writes = z.stages.map (fun st => st.map (·.writes)) :=
  congrArg StagesBuilder.writes (zips_iff.mp hz).1

theorem runningTime_eq_of_zips : b.runningTime = z.stages.map (fun st => st.map (·.time)) :=
  congrArg StagesBuilder.runningTime (zips_iff.mp hz).1

theorem stages_eq_of_zips : b.stages = z.stages.map (fun st => st.map (·.sys)) :=
  congrArg StagesBuilder.stages (zips_iff.mp hz).1

theorem zips_length : z.stages.length = b.ids.length ∧ b.stages.length = b.ids.length := by
  rw [ids_eq_of_zips hz, stages_eq_of_zips hz, List.length_map, List.length_map]
  exact ⟨rfl, rfl⟩

theorem target_sim (dep : List Nat) (d : Decl) :
    b.insertionTarget (sortDedup d.reads) d.writes (b.prepDep dep) d.time
      = z.target zJoinOk dedup dep (sortDedup d.reads) d := by
  obtain ⟨rfl, _⟩ := zips_iff.mp hz
  exact unzip_target z dep d

end zips

/-- **Simulation.** One `insert` on the five tables is one `insert` on the zipped view, with the
mirror's join policy, `sortDedup` and `dedup`. -/
theorem insert_sim {b : StagesBuilder} {z : ZB} (hz : Zips b z) (dep : List Nat) (id sys : Nat) (d : Decl) :
    Zips (b.insert dep id sys d) (z.insert zJoinOk sortDedup dedup dep id sys d) := by
  obtain ⟨rfl, hle⟩ := zips_iff.mp hz
  refine zips_iff.mpr ⟨unzip_insert z dep id sys d, ?_⟩
  rw [ZB.insert, place_barrier]
  exact Nat.le_trans hle (place_length_le ..)

theorem addBarrier_sim {b : StagesBuilder} {z : ZB} (hz : Zips b z) : Zips b.addBarrier z.addBarrier := by
  obtain ⟨rfl, _⟩ := zips_iff.mp hz
  exact zips_iff.mpr ⟨unzip_addBarrier z, Nat.le_refl _⟩

#print axioms insert_sim
end Shred
