import ShredModel.Lemmas.Zip
import ShredModel.Lemmas.ListAux
/-!
# What `place` does, and the invariants of `insert` on the zipped view

`place` changes one stage and keeps what was there; the new id appears once, in the target's stage and
nowhere else. With what `target` decides (`Lemmas/Zip.lean`) this gives the plan-level invariants, each for
any join policy: stages stay isolated (C01), dependencies are ordered before the new system (C02), the new
system lands at or behind the barrier and nothing else moves (C03), every placed id occurs exactly once
(C04), every skipped stage is justified (C10). `GroupFit` collects what C18, C04 and C20 need of a group:
it stays below the `ArrayVec` capacity when the join policy refuses groups of `cap - 1`, its running time
stays small (the `u8`/`i8` arithmetic is exact), its executed list and its id list agree.
-/
namespace Shred

/-- what the `place` lemmas need of a target and `target` delivers (`target_valid`): the stage, at or
behind the barrier, exists, and for a join so does the group -/
def ValidTarget (b : ZB) : InsertionTarget → Prop
  | .stage s => b.barrier ≤ s ∧ ∃ st, b.stages[s]? = some st
  | .group s g => b.barrier ≤ s ∧ ∃ st gk, b.stages[s]? = some st ∧ st[g]? = some gk
  | .newStage => True

theorem ValidTarget.barrier_le {b : ZB} {tg : InsertionTarget} (hv : ValidTarget b tg)
    (hbar : b.barrier ≤ b.stages.length) : b.barrier ≤ tg.stageOr b.stages.length := by
  cases tg with
  | newStage => exact hbar
  | stage s => exact hv.1
  | group s g => exact hv.1

theorem target_valid (joinOk : ZStage → Nat → Nat → Bool) (dedupN : List Nat → List Nat)
    (b : ZB) (dep : List Nat) (nr : List ResId) (d : Decl) :
    ValidTarget b (b.target joinOk dedupN dep nr d) := by
  cases h : b.target joinOk dedupN dep nr d with
  | newStage => trivial
  | stage s => obtain ⟨hle, st, hst, _⟩ := target_stage h; exact ⟨hle, st, hst⟩
  | group s g => obtain ⟨hle, st, gk, hst, hgk, _⟩ := target_group h; exact ⟨hle, st, gk, hst, hgk⟩

section place
variable {b : ZB} {tg : InsertionTarget} (id sys : Nat) (nr : List ResId) (d : Decl)

theorem forall_mem_place {P : ZStage → Prop} (hb : ∀ st, st ∈ b.stages → P st)
    (hnew : tg = .newStage → P [newGroup id sys nr d])
    (hstage : ∀ s st, tg = .stage s → b.stages[s]? = some st → P (st ++ [newGroup id sys nr d]))
    (hgroup : ∀ s g st, tg = .group s g → b.stages[s]? = some st → P (st.modify g (·.push id sys nr d))) :
    ∀ st, st ∈ (b.place tg id sys nr d).stages → P st := by
  intro st' hst'
  cases tg with
  | newStage =>
    rcases List.mem_append.mp hst' with h | h
    · exact hb st' h
    · cases List.mem_singleton.mp h; exact hnew rfl
  | stage s =>
    rcases mem_modify hst' with h | ⟨st, hst, rfl⟩
    · exact hb st' h
    · exact hstage s st rfl hst
  | group s g =>
    rcases mem_modify hst' with h | ⟨st, hst, rfl⟩
    · exact hb st' h
    · exact hgroup s g st rfl hst

theorem inStage_place_new (hv : ValidTarget b tg) :
    InStage (b.place tg id sys nr d) (tg.stageOr b.stages.length) id := by
  have hnew : id ∈ (newGroup id sys nr d).ids := List.mem_singleton_self id
  cases tg with
  | newStage =>
    exact ⟨[newGroup id sys nr d], newGroup id sys nr d, List.getElem?_concat_length,
      List.mem_singleton_self _, hnew⟩
  | stage s =>
    obtain ⟨_, st, hst⟩ := hv
    exact ⟨st ++ [newGroup id sys nr d], newGroup id sys nr d, getElem?_modify_of_some hst,
      List.mem_append_right _ (List.mem_singleton_self _), hnew⟩
  | group s g =>
    obtain ⟨_, st, gk, hst, hgk⟩ := hv
    exact ⟨st.modify g (·.push id sys nr d), gk.push id sys nr d,
      getElem?_modify_of_some hst, List.mem_of_getElem? (getElem?_modify_of_some hgk),
      List.mem_append_right _ (List.mem_singleton_self id)⟩

theorem sameGroupBefore_place_group {s g : Nat} {st : ZStage} {gk : ZGroup} {A : Nat}
    (hst : b.stages[s]? = some st) (hgk : st[g]? = some gk) (hA : A ∈ gk.ids) :
    SameGroupBefore (b.place (.group s g) id sys nr d) A id := by
  obtain ⟨i, hi⟩ := List.mem_iff_getElem?.mp hA
  have hil : i < gk.ids.length := (List.getElem?_eq_some_iff.mp hi).1
  refine ⟨s, st.modify g (·.push id sys nr d), g, gk.push id sys nr d, i, gk.ids.length,
    getElem?_modify_of_some hst, getElem?_modify_of_some hgk, hil, ?_, ?_⟩
  · simp only [ZGroup.push]
    rw [List.getElem?_append_left hil]
    exact hi
  · simp [ZGroup.push]

end place

theorem place_barrier (b : ZB) (tg : InsertionTarget) (id sys : Nat) (nr : List ResId) (d : Decl) :
    (b.place tg id sys nr d).barrier = b.barrier := by
  cases tg <;> rfl

theorem place_length_le (b : ZB) (tg : InsertionTarget) (id sys : Nat) (nr : List ResId) (d : Decl) :
    b.stages.length ≤ (b.place tg id sys nr d).stages.length := by
  cases tg <;> simp only [ZB.place, List.length_modify, List.length_append, List.length_singleton,
    Nat.le_refl, Nat.le_add_right]

theorem place_stages_mono (b : ZB) (tg : InsertionTarget) (id sys : Nat) (nr : List ResId) (d : Decl)
    {s : Nat} {st : ZStage} (hs : b.stages[s]? = some st) :
    ∃ st', (b.place tg id sys nr d).stages[s]? = some st' ∧
      ∀ (k : Nat) (g : ZGroup), st[k]? = some g →
        ∃ g', st'[k]? = some g' ∧ ∃ tail, g'.ids = g.ids ++ tail := by
  have hlt : s < b.stages.length := (List.getElem?_eq_some_iff.mp hs).1
  have same : ∀ (k : Nat) (g : ZGroup), st[k]? = some g → ∃ g', st[k]? = some g' ∧ ∃ tail, g'.ids = g.ids ++ tail :=
    fun k g hg => ⟨g, hg, [], (List.append_nil _).symm⟩
  cases tg with
  | newStage => exact ⟨st, (List.getElem?_append_left hlt).trans hs, same⟩
  | stage s' =>
    by_cases h : s' = s
    · subst h
      refine ⟨st ++ [newGroup id sys nr d], getElem?_modify_of_some hs, fun k g hg => ?_⟩
      have hk : k < st.length := (List.getElem?_eq_some_iff.mp hg).1
      exact ⟨g, (List.getElem?_append_left hk).trans hg, [], (List.append_nil _).symm⟩
    · exact ⟨st, (List.getElem?_modify_ne _ _ h).trans hs, same⟩
  | group s' k' =>
    by_cases h : s' = s
    · subst h
      refine ⟨st.modify k' (·.push id sys nr d), getElem?_modify_of_some hs, fun k g hg => ?_⟩
      by_cases hk : k' = k
      · subst hk
        exact ⟨g.push id sys nr d, getElem?_modify_of_some hg, [id], rfl⟩
      · exact ⟨g, (List.getElem?_modify_ne _ _ hk).trans hg, [], (List.append_nil _).symm⟩
    · exact ⟨st, (List.getElem?_modify_ne _ _ h).trans hs, same⟩

theorem place_mono_inStage (b : ZB) (tg : InsertionTarget) (id sys : Nat) (nr : List ResId) (d : Decl)
    {s x : Nat} (h : InStage b s x) : InStage (b.place tg id sys nr d) s x := by
  obtain ⟨st, g, hs, hg, hx⟩ := h
  obtain ⟨st', hs', hmono⟩ := place_stages_mono b tg id sys nr d hs
  obtain ⟨k, hk⟩ := List.mem_iff_getElem?.mp hg
  obtain ⟨g', hg', tail, htail⟩ := hmono k g hk
  exact ⟨st', g', hs', List.mem_of_getElem? hg', by rw [htail]; exact List.mem_append_left _ hx⟩

theorem place_mono_sameGroup (b : ZB) (tg : InsertionTarget) (id sys : Nat) (nr : List ResId) (d : Decl)
    {A B : Nat} (h : SameGroupBefore b A B) : SameGroupBefore (b.place tg id sys nr d) A B := by
  obtain ⟨s, st, k, g, i, j, hs, hk, hij, hi, hj⟩ := h
  obtain ⟨st', hs', hmono⟩ := place_stages_mono b tg id sys nr d hs
  obtain ⟨g', hg', tail, htail⟩ := hmono k g hk
  have hil : i < g.ids.length := (List.getElem?_eq_some_iff.mp hi).1
  have hjl : j < g.ids.length := (List.getElem?_eq_some_iff.mp hj).1
  refine ⟨s, st', k, g', i, j, hs', hg', hij, ?_, ?_⟩
  · rw [htail, List.getElem?_append_left hil]; exact hi
  · rw [htail, List.getElem?_append_left hjl]; exact hj

/-- ordering facts about systems registered earlier survive every later registration -/
theorem place_mono_ordered (b : ZB) (tg : InsertionTarget) (id sys : Nat) (nr : List ResId) (d : Decl)
    {A B : Nat} (h : OrderedBefore b A B) : OrderedBefore (b.place tg id sys nr d) A B := by
  rcases h with ⟨sa, sb, hlt, ha, hb⟩ | h
  · exact Or.inl ⟨sa, sb, hlt, place_mono_inStage b tg id sys nr d ha, place_mono_inStage b tg id sys nr d hb⟩
  · exact Or.inr (place_mono_sameGroup b tg id sys nr d h)

theorem inStage_place (b : ZB) (tg : InsertionTarget) (id sys : Nat) (nr : List ResId) (d : Decl)
    {s x : Nat} (h : InStage (b.place tg id sys nr d) s x) :
    InStage b s x ∨ (x = id ∧ s = tg.stageOr b.stages.length) := by
  obtain ⟨st', g', hs', hg', hxg⟩ := h
  have hnew : x ∈ (newGroup id sys nr d).ids → x = id := List.mem_singleton.mp
  -- a stage that `place` left alone
  have old : b.stages[s]? = some st' → InStage b s x ∨ (x = id ∧ s = tg.stageOr b.stages.length) :=
    fun hs => Or.inl ⟨st', g', hs, hg', hxg⟩
  cases tg with
  | newStage =>
    rw [ZB.place, getElem?_concat] at hs'
    split at hs'
    next hs =>
      cases hs'
      cases List.mem_singleton.mp hg'
      exact Or.inr ⟨hnew hxg, hs⟩
    next => exact old hs'
  | stage s0 =>
    by_cases h0 : s0 = s
    · subst h0
      rw [ZB.place, List.getElem?_modify_eq] at hs'
      obtain ⟨st, hst, rfl⟩ := Option.map_eq_some_iff.mp hs'
      rcases List.mem_append.mp hg' with h | h
      · exact Or.inl ⟨st, g', hst, h, hxg⟩
      · cases List.mem_singleton.mp h; exact Or.inr ⟨hnew hxg, rfl⟩
    · exact old ((List.getElem?_modify_ne _ _ h0).symm.trans hs')
  | group s0 g0 =>
    by_cases h0 : s0 = s
    · subst h0
      rw [ZB.place, List.getElem?_modify_eq] at hs'
      obtain ⟨st, hst, rfl⟩ := Option.map_eq_some_iff.mp hs'
      rcases mem_modify hg' with h | ⟨gk, hgk, rfl⟩
      · exact Or.inl ⟨st, g', hst, h, hxg⟩
      · rcases List.mem_append.mp hxg with h | h
        · exact Or.inl ⟨st, gk, hst, List.mem_of_getElem? hgk, h⟩
        · exact Or.inr ⟨List.mem_singleton.mp h, rfl⟩
    · exact old ((List.getElem?_modify_ne _ _ h0).symm.trans hs')

theorem inStage_place_inv (b : ZB) (tg : InsertionTarget) (id sys : Nat) (nr : List ResId) (d : Decl)
    {s x : Nat} (hx : x ≠ id) (h : InStage (b.place tg id sys nr d) s x) : InStage b s x :=
  (inStage_place b tg id sys nr d h).resolve_right fun h' => hx h'.1

theorem count_place (b : ZB) (tg : InsertionTarget) (hv : ValidTarget b tg) (id sys : Nat)
    (nr : List ResId) (d : Decl) (x : Nat) :
    (b.place tg id sys nr d).allIds.count x = b.allIds.count x + (if x = id then 1 else 0) := by
  have hsingle : [id].count x = if x = id then 1 else 0 := by
    rw [List.count_singleton]
    simp only [beq_iff_eq]
    simp only [eq_comm]
  cases tg with
  | newStage =>
    simp only [ZB.place, ZB.allIds, List.flatMap_append, List.count_append]
    simp [ZStage.ids, newGroup, hsingle]
  | stage s =>
    obtain ⟨_, st, hst⟩ := hv
    simp only [ZB.place, ZB.allIds]
    apply count_flatMap_modify ZStage.ids _ _ x b.stages s st hst
    simp [ZStage.ids, List.flatMap_append, List.count_append, newGroup, hsingle]
  | group s g =>
    obtain ⟨_, st, gk, hst, hgk⟩ := hv
    simp only [ZB.place, ZB.allIds]
    apply count_flatMap_modify ZStage.ids _ _ x b.stages s st hst
    unfold ZStage.ids
    apply count_flatMap_modify (·.ids) _ _ x st g gk hgk
    simp [ZGroup.push, List.count_append, hsingle]

/-- the accumulators of a group are, as sets, the union of its members' declarations -/
structure AccumOK (D : Nat → Decl) (g : ZGroup) : Prop where
  reads : ∀ x, x ∈ g.reads ↔ ∃ s, s ∈ g.sys ∧ x ∈ (D s).reads
  writes : ∀ x, x ∈ g.writes ↔ ∃ s, s ∈ g.sys ∧ x ∈ (D s).writes

theorem resHit_iff {D : Nat → Decl} {g : ZGroup} (hg : AccumOK D g) {d : Decl} {nr : List ResId}
    (hnr : ∀ x, x ∈ nr ↔ x ∈ d.reads) :
    resHit nr d.writes g = true ↔ ∃ s, s ∈ g.sys ∧ conflictsD d (D s) := by
  rw [resHit, hit_iff]
  constructor
  · rintro (⟨x, hx, hy | hy⟩ | ⟨x, hx, hy⟩)
    · obtain ⟨s, hs, hxs⟩ := (hg.writes x).mp hy
      exact ⟨s, hs, Or.inl ⟨x, hx, Or.inl hxs⟩⟩
    · obtain ⟨s, hs, hxs⟩ := (hg.reads x).mp hy
      exact ⟨s, hs, Or.inl ⟨x, hx, Or.inr hxs⟩⟩
    · obtain ⟨s, hs, hxs⟩ := (hg.writes x).mp hy
      exact ⟨s, hs, Or.inr ⟨x, (hnr x).mp hx, hxs⟩⟩
  · rintro ⟨s, hs, ⟨x, hx, hy | hy⟩ | ⟨x, hx, hy⟩⟩
    · exact Or.inl ⟨x, hx, Or.inl ((hg.writes x).mpr ⟨s, hs, hy⟩)⟩
    · exact Or.inl ⟨x, hx, Or.inr ((hg.reads x).mpr ⟨s, hs, hy⟩)⟩
    · exact Or.inr ⟨x, (hnr x).mpr hx, (hg.writes x).mpr ⟨s, hs, hy⟩⟩

theorem resHit_false_iff {D : Nat → Decl} {g : ZGroup} (hg : AccumOK D g) {d : Decl} {nr : List ResId}
    (hnr : ∀ x, x ∈ nr ↔ x ∈ d.reads) :
    resHit nr d.writes g = false ↔ ∀ s, s ∈ g.sys → ¬ conflictsD d (D s) := by
  rw [← Bool.not_eq_true, resHit_iff hg hnr]
  exact ⟨fun h s hs hc => h ⟨s, hs, hc⟩, fun h ⟨s, hs, hc⟩ => h s hs hc⟩

def IsolatedStage (D : Nat → Decl) (st : ZStage) : Prop :=
  ∀ (i j : Nat) (gi gj : ZGroup), st[i]? = some gi → st[j]? = some gj → i ≠ j →
    ∀ a, a ∈ gi.sys → ∀ c, c ∈ gj.sys → ¬ conflictsD (D a) (D c)

structure StageOK (D : Nat → Decl) (st : ZStage) : Prop where
  accum : ∀ g, g ∈ st → AccumOK D g
  iso : IsolatedStage D st

def ZB.OK (D : Nat → Decl) (b : ZB) : Prop := ∀ st, st ∈ b.stages → StageOK D st

theorem accumOK_newGroup {D : Nat → Decl} {id sys : Nat} {nr : List ResId} {d : Decl}
    (hD : D sys = d) (hnr : ∀ x, x ∈ nr ↔ x ∈ d.reads) : AccumOK D (newGroup id sys nr d) := by
  constructor <;> intro x <;> simp [newGroup, hD, hnr]

theorem accumOK_push {D : Nat → Decl} {g : ZGroup} {id sys : Nat} {nr : List ResId} {d : Decl}
    (hg : AccumOK D g) (hD : D sys = d) (hnr : ∀ x, x ∈ nr ↔ x ∈ d.reads) :
    AccumOK D (g.push id sys nr d) := by
  -- one accumulator, `A`, extended by `B`, which as a set is what `sys` declares under `F`
  have key : ∀ (F : Decl → List ResId) (A B : List ResId), (∀ x, x ∈ A ↔ ∃ s, s ∈ g.sys ∧ x ∈ F (D s)) →
      (∀ x, x ∈ B ↔ x ∈ F d) → ∀ x, x ∈ A ++ B ↔ ∃ s, s ∈ g.sys ++ [sys] ∧ x ∈ F (D s) := by
    intro F A B hA hB x
    rw [List.mem_append, hA, hB, ← hD]
    constructor
    · rintro (⟨s, hs, hx⟩ | hx)
      · exact ⟨s, List.mem_append_left _ hs, hx⟩
      · exact ⟨sys, List.mem_append_right _ (List.mem_singleton_self _), hx⟩
    · rintro ⟨s, hs, hx⟩
      rcases List.mem_append.mp hs with hs | hs
      · exact Or.inl ⟨s, hs, hx⟩
      · exact Or.inr (List.mem_singleton.mp hs ▸ hx)
  exact ⟨key (·.reads) _ _ hg.reads hnr, key (·.writes) _ _ hg.writes fun _ => Iff.rfl⟩

def GroupsCompat (D : Nat → Decl) (gi gj : ZGroup) : Prop :=
  ∀ a, a ∈ gi.sys → ∀ c, c ∈ gj.sys → ¬ conflictsD (D a) (D c)

theorem GroupsCompat.symm {D : Nat → Decl} {gi gj : ZGroup} (h : GroupsCompat D gi gj) :
    GroupsCompat D gj gi := fun c hc a ha hcf => h a ha c hc (conflictsD_symm hcf)

theorem isolatedStage_iff_pairwise {D : Nat → Decl} {st : ZStage} :
    IsolatedStage D st ↔ st.Pairwise (GroupsCompat D) := by
  rw [List.pairwise_iff_getElem]
  constructor
  · intro h i j hi hj hij
    exact h i j _ _ (List.getElem?_eq_getElem hi) (List.getElem?_eq_getElem hj) (Nat.ne_of_lt hij)
  · intro h i j gi gj hi hj hne
    obtain ⟨hi', rfl⟩ := List.getElem?_eq_some_iff.mp hi
    obtain ⟨hj', rfl⟩ := List.getElem?_eq_some_iff.mp hj
    rcases Nat.lt_or_gt_of_ne hne with hlt | hgt
    · exact h i j hi' hj' hlt
    · exact (h j i hj' hi' hgt).symm

theorem stageOK_nil (D : Nat → Decl) : StageOK D [] where
  accum := nofun
  iso := fun i j gi gj hi => by simp at hi

theorem stageOK_append {D : Nat → Decl} {st : ZStage} {id sys : Nat} {nr : List ResId} {d : Decl}
    (hst : StageOK D st) (hD : D sys = d) (hnr : ∀ x, x ∈ nr ↔ x ∈ d.reads)
    (hfree : ∀ g, g ∈ st → resHit nr d.writes g = false) :
    StageOK D (st ++ [newGroup id sys nr d]) := by
  constructor
  case accum =>
    intro g hg
    rcases List.mem_append.mp hg with h | h
    · exact hst.accum g h
    · cases List.mem_singleton.mp h; exact accumOK_newGroup hD hnr
  case iso =>
    -- the old groups are pairwise compatible, and each is compatible with the new one: no resource hit
    refine isolatedStage_iff_pairwise.mpr (List.pairwise_append.mpr
      ⟨isolatedStage_iff_pairwise.mp hst.iso, List.pairwise_singleton _ _,
        fun g hg g' hg' a ha c hc hcf => ?_⟩)
    cases List.mem_singleton.mp hg'
    cases List.mem_singleton.mp hc
    exact (resHit_false_iff (hst.accum g hg) hnr).mp (hfree g hg) a ha (hD ▸ conflictsD_symm hcf)

theorem isolatedStage_modify {D : Nat → Decl} {st : ZStage} {k : Nat} {gk : ZGroup} {f : ZGroup → ZGroup}
    (hst : IsolatedStage D st) (hk : st[k]? = some gk)
    (hf : ∀ j gj, st[j]? = some gj → j ≠ k → GroupsCompat D (f gk) gj) :
    IsolatedStage D (st.modify k f) := by
  intro i j gi gj hi hj hne
  by_cases hik : k = i
  · subst hik
    rw [getElem?_modify_of_some hk] at hi
    rw [List.getElem?_modify_ne _ _ hne] at hj
    cases hi
    exact hf j gj hj (Ne.symm hne)
  · rw [List.getElem?_modify_ne _ _ hik] at hi
    by_cases hjk : k = j
    · subst hjk
      rw [getElem?_modify_of_some hk] at hj
      cases hj
      exact (hf i gi hi (Ne.symm hik)).symm
    · rw [List.getElem?_modify_ne _ _ hjk] at hj
      exact hst i j gi gj hi hj hne

theorem stageOK_join {D : Nat → Decl} {st : ZStage} {k : Nat} {gk : ZGroup} {id sys : Nat}
    {nr : List ResId} {d : Decl}
    (hst : StageOK D st) (hD : D sys = d) (hnr : ∀ x, x ∈ nr ↔ x ∈ d.reads)
    (hk : st[k]? = some gk)
    (hfree : ∀ (i : Nat) (g : ZGroup), st[i]? = some g → i ≠ k → resHit nr d.writes g = false) :
    StageOK D (st.modify k (·.push id sys nr d)) := by
  constructor
  case accum =>
    intro g hg
    rcases mem_modify hg with h | ⟨a, ha, rfl⟩
    · exact hst.accum g h
    · exact accumOK_push (hst.accum a (List.mem_of_getElem? ha)) hD hnr
  case iso =>
    -- another group `gj` was compatible with the old members of `gk`, and has no resource hit with the
    -- new one
    refine isolatedStage_modify hst.iso hk fun j gj hj hne a ha c hc => ?_
    rcases List.mem_append.mp ha with ha | ha
    · exact hst.iso k j gk gj hk hj (Ne.symm hne) a ha c hc
    · cases List.mem_singleton.mp ha
      rw [hD]
      exact (resHit_false_iff (hst.accum gj (List.mem_of_getElem? hj)) hnr).mp (hfree j gj hj hne) c hc

/-- **C01, plan level.** `insert` keeps every stage isolated, for any join policy, any
normalisation of the read list that preserves membership, any de-duplication of the
dependency list. -/
theorem insert_preserves_OK {D : Nat → Decl} (joinOk : ZStage → Nat → Nat → Bool)
    (norm : List ResId → List ResId) (hnorm : ∀ l x, x ∈ norm l ↔ x ∈ l)
    (dedupN : List Nat → List Nat)
    (b : ZB) (dep : List Nat) (id sys : Nat) (d : Decl) (hD : D sys = d) (hb : b.OK D) :
    (b.insert joinOk norm dedupN dep id sys d).OK D := by
  have hnr : ∀ x, x ∈ norm d.reads ↔ x ∈ d.reads := hnorm d.reads
  refine forall_mem_place id sys _ d hb (fun _ => ?_) (fun s st htg hst => ?_) (fun s g st htg hst => ?_)
  · exact stageOK_append (stageOK_nil D) hD hnr nofun
  · obtain ⟨_, st', hst', hfree, _⟩ := target_stage htg
    cases hst.symm.trans hst'
    exact stageOK_append (hb st (List.mem_of_getElem? hst)) hD hnr hfree
  · obtain ⟨_, st', gk, hst', hgk, _, hfree, _⟩ := target_group htg
    cases hst.symm.trans hst'
    exact stageOK_join (hb st (List.mem_of_getElem? hst)) hD hnr hgk hfree

theorem addBarrier_preserves_OK {D : Nat → Decl} (b : ZB) (hb : b.OK D) : b.addBarrier.OK D := hb

/-- **C02, plan level.** After `insert`, every dependency `A` of the new system (each already
placed somewhere) is ordered before it: in an earlier stage, or earlier in the same group. -/
theorem insert_orders_deps (joinOk : ZStage → Nat → Nat → Bool)
    (norm : List ResId → List ResId)
    (dedupN : List Nat → List Nat) (hded : ∀ l x, x ∈ dedupN l ↔ x ∈ l)
    (b : ZB) (hbar : b.barrier ≤ b.stages.length)
    (dep : List Nat) (id sys : Nat) (d : Decl)
    (A : Nat) (hA : A ∈ dep) (hplaced : ∃ s, InStage b s A) :
    OrderedBefore (b.insert joinOk norm dedupN dep id sys d) A id := by
  have hnew := inStage_place_new id sys (norm d.reads) d
    (target_valid joinOk dedupN b dep (norm d.reads) d)
  -- it is enough to find `A` in a stage before the target's
  have earlier : ∀ j, j < (b.target joinOk dedupN dep (norm d.reads) d).stageOr b.stages.length →
      InStage b j A → OrderedBefore (b.insert joinOk norm dedupN dep id sys d) A id :=
    fun j hj hin => Or.inl ⟨j, _, hj, place_mono_inStage b _ id sys _ d hin, hnew⟩
  unfold ZB.insert at earlier ⊢
  generalize htg : b.target joinOk dedupN dep (norm d.reads) d = tg at earlier ⊢
  cases tg with
  | newStage =>
    obtain ⟨sA, hsA⟩ := hplaced
    exact earlier sA (inStage_lt_length hsA) hsA
  | stage s =>
    obtain ⟨_, _, _, _, hnil⟩ := target_stage htg
    rcases mem_pend_or (s := s) hded hA with h | ⟨j, hj, hin⟩
    · rw [hnil] at h; cases h
    · exact earlier j hj hin
  | group s g =>
    obtain ⟨_, st, gk, hst, hgk, _, _, hdep⟩ := target_group htg
    rcases mem_pend_or (s := s) hded hA with h | ⟨j, hj, hin⟩
    · rcases hdep with hnil | ⟨a, hone, ha⟩
      · rw [hnil] at h; cases h
      · rw [hone, List.mem_singleton] at h
        exact Or.inr (sameGroupBefore_place_group id sys _ d hst hgk (h ▸ ha))
    · exact earlier j hj hin

/-- **C10, plan level** (for the repaired `insert`): every stage between the barrier and the
chosen one holds an earlier system that conflicts with the new one, or one of the new
system's dependencies sits in that stage or a later one. -/
theorem insert_skips_justified {D : Nat → Decl} (joinOk : ZStage → Nat → Nat → Bool)
    (norm : List ResId → List ResId) (hnorm : ∀ l x, x ∈ norm l ↔ x ∈ l)
    (dedupN : List Nat → List Nat) (hded : ∀ l x, x ∈ dedupN l ↔ x ∈ l)
    (hnodup : ∀ l, (dedupN l).Nodup)
    (b : ZB) (hb : b.OK D) (dep : List Nat) (d : Decl)
    (hplaced : ∀ A, A ∈ dep → ∃ s, InStage b s A)
    (s : Nat) (hs1 : b.barrier ≤ s)
    (hs2 : s < (b.target joinOk dedupN dep (norm d.reads) d).stageOr b.stages.length) :
    (∃ (st : ZStage) (g : ZGroup) (a : Nat), b.stages[s]? = some st ∧ g ∈ st ∧ a ∈ g.sys ∧ conflictsD d (D a)) ∨
    (∃ A s', A ∈ dep ∧ s ≤ s' ∧ InStage b s' A) := by
  obtain ⟨st, hst, ⟨g, hg, hhit⟩ | hne⟩ := target_skips hs1 hs2
  · have hacc := (hb st (List.mem_of_getElem? hst)).accum g hg
    obtain ⟨a, ha, hc⟩ := (resHit_iff hacc (hnorm d.reads)).mp hhit
    exact Or.inl ⟨st, g, a, hst, hg, ha, hc⟩
  · right
    obtain ⟨A, hAp⟩ := List.exists_mem_of_ne_nil _ hne
    have hA := pend_sub hded hAp
    obtain ⟨sA, hsA⟩ := hplaced A hA
    exact ⟨A, sA, hA, Nat.le_of_not_lt fun hlt => not_inStage_of_mem_pend hnodup hAp hlt hsA, hsA⟩

/-- **C04, plan level.** `insert` adds exactly one occurrence of the new id and touches no other. -/
theorem insert_count (joinOk : ZStage → Nat → Nat → Bool) (norm : List ResId → List ResId)
    (dedupN : List Nat → List Nat) (b : ZB) (dep : List Nat) (id sys : Nat) (d : Decl) (x : Nat) :
    (b.insert joinOk norm dedupN dep id sys d).allIds.count x
      = b.allIds.count x + (if x = id then 1 else 0) :=
  count_place b _ (target_valid joinOk dedupN b dep (norm d.reads) d) id sys _ d x

structure GroupFit (D : Nat → Decl) (cap : Nat) (g : ZGroup) : Prop where
  pair : g.sys = g.ids
  size : 1 ≤ g.sys.length ∧ g.sys.length < cap
  time : g.time = (g.sys.map fun s => (D s).time).sum

def ZB.Fit (D : Nat → Decl) (cap : Nat) (b : ZB) : Prop :=
  ∀ st, st ∈ b.stages → ∀ g, g ∈ st → GroupFit D cap g

theorem place_fit {D : Nat → Decl} {cap : Nat} (hcap : 2 ≤ cap) (b : ZB) (hb : b.Fit D cap)
    (tg : InsertionTarget) (id : Nat) (nr : List ResId) (d : Decl) (hD : D id = d)
    (hjoin : ∀ s g, tg = .group s g → ∀ st gk, b.stages[s]? = some st → st[g]? = some gk →
      gk.sys.length + 1 < cap) :
    (b.place tg id id nr d).Fit D cap := by
  have hnew : GroupFit D cap (newGroup id id nr d) :=
    { pair := rfl, size := ⟨Nat.le_refl 1, hcap⟩, time := by simp [newGroup, hD] }
  refine forall_mem_place id id nr d hb (fun _ g hg => ?_) (fun s st _ hst g hg => ?_)
    (fun s g st htg hst g' hg' => ?_)
  · cases List.mem_singleton.mp hg; exact hnew
  · rcases List.mem_append.mp hg with h | h
    · exact hb st (List.mem_of_getElem? hst) g h
    · cases List.mem_singleton.mp h; exact hnew
  · rcases mem_modify hg' with h | ⟨gk, hgk, rfl⟩
    · exact hb st (List.mem_of_getElem? hst) g' h
    · have hfit := hb st (List.mem_of_getElem? hst) gk (List.mem_of_getElem? hgk)
      have hlt := hjoin s g htg st gk hst hgk
      exact { pair := by simp [ZGroup.push, hfit.pair]
              size := by simp only [ZGroup.push, List.length_append, List.length_singleton]; omega
              time := by simp [ZGroup.push, hfit.time, hD] }

/-- **C18 (capacity) / C04, C20 (pairing).** With a join policy that refuses groups of
`cap - 1` members, no group ever reaches `cap`; the executed list equals the id table. -/
theorem insert_fit {D : Nat → Decl} {cap : Nat} (hcap : 2 ≤ cap)
    (joinOk : ZStage → Nat → Nat → Bool)
    (hpolicy : ∀ st g t, joinOk st g t = true → ∀ gk, st[g]? = some gk → gk.sys.length + 1 < cap)
    (norm : List ResId → List ResId) (dedupN : List Nat → List Nat)
    (b : ZB) (hb : b.Fit D cap) (dep : List Nat) (id : Nat) (d : Decl) (hD : D id = d) :
    (b.insert joinOk norm dedupN dep id id d).Fit D cap := by
  refine place_fit hcap b hb _ id _ d hD fun s g htg st gk hst hgk => ?_
  obtain ⟨_, st', _, hst', _, hj, _⟩ := target_group htg
  cases hst.symm.trans hst'
  exact hpolicy st g d.time hj gk hgk

/-- a group's running time is below `cap` times the largest hint `m`: with `cap = 5` and `m = 5` (the
`RunningTime` enum) at most 20, far from `i8::MAX` -/
theorem fit_time_le {D : Nat → Decl} {cap m : Nat} {g : ZGroup} (hg : GroupFit D cap g)
    (htimes : ∀ s, (D s).time ≤ m) : g.time ≤ (cap - 1) * m := by
  rw [hg.time]
  exact Nat.le_trans (sum_map_le _ g.sys m fun s _ => htimes s)
    (Nat.mul_le_mul_right m (Nat.le_sub_one_of_lt hg.size.2))

theorem insert_at_or_after_barrier (joinOk : ZStage → Nat → Nat → Bool) (norm : List ResId → List ResId)
    (dedupN : List Nat → List Nat) (b : ZB) (hbar : b.barrier ≤ b.stages.length)
    (dep : List Nat) (id sys : Nat) (d : Decl) :
    ∃ s, b.barrier ≤ s ∧ InStage (b.insert joinOk norm dedupN dep id sys d) s id := by
  have hv := target_valid joinOk dedupN b dep (norm d.reads) d
  exact ⟨_, hv.barrier_le hbar, inStage_place_new id sys (norm d.reads) d hv⟩

theorem insert_length_mono (joinOk : ZStage → Nat → Nat → Bool) (norm : List ResId → List ResId)
    (dedupN : List Nat → List Nat) (b : ZB) (dep : List Nat) (id sys : Nat) (d : Decl) :
    b.stages.length ≤ (b.insert joinOk norm dedupN dep id sys d).stages.length :=
  place_length_le b _ id sys _ d

#print axioms insert_count
#print axioms insert_fit
end Shred
