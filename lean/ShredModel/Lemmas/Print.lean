import ShredModel.Lemmas.Add
/-!
# The printed plan (C20): which name stands for which system

`MapOK` is what every sequence of `add` calls, rejected ones included, keeps true of the name map. Its `ids`
part makes the name printed for an id the one it was registered under; an id the map does not hold gets the
placeholder. Its `names` part (`add` rejects a name already in the map) is kept alike, though printing
looks up by id only.
-/
namespace Shred
namespace DispatcherBuilder

/-- the builder's name map after any sequence of `add` calls: ids below `currentId`, pairwise
distinct, names pairwise distinct -/
structure MapOK (b : DispatcherBuilder) : Prop where
  lt : ∀ p, p ∈ b.map → p.2 < b.currentId
  ids : (b.map.map (·.2)).Nodup
  names : (b.map.map (·.1)).Nodup

theorem mapOK_init : MapOK {} := ⟨by simp, by simp, by simp⟩

theorem lookup_none_iff {m : List (String × SysId)} {n : String} : lookup m n = none ↔ n ∉ m.map (·.1) := by
  unfold lookup
  simp only [Option.map_eq_none_iff, List.find?_eq_none, beq_iff_eq, List.mem_map, not_exists, not_and]

theorem printedName_named {m : List (String × SysId)} (hids : (m.map (·.2)).Nodup) {name : String} {id : SysId}
    (h : (name, id) ∈ m) : printedName m id = sanitise name := by
  unfold printedName
  induction m with
  | nil => cases h
  | cons p m ih =>
    simp only [List.map_cons, List.nodup_cons] at hids
    simp only [List.find?_cons]
    rcases List.mem_cons.mp h with rfl | h'
    · simp only [BEq.rfl]
    · have hb : (p.2 == id) = false :=
        beq_false_of_ne fun e => hids.1 (List.mem_map.mpr ⟨(name, id), h', e.symm⟩)
      simp only [hb]
      exact ih hids.2 h'

theorem printedName_unnamed {m : List (String × SysId)} {id : SysId} (h : ∀ p, p ∈ m → p.2 ≠ id) :
    printedName m id = sanitise s!"unnamed_system_{id}" := by
  unfold printedName
  have : m.find? (fun p => p.2 == id) = none := by
    simp only [List.find?_eq_none, beq_iff_eq]
    exact h
  rw [this]

end DispatcherBuilder
end Shred
