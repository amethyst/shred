import ShredModel.Lemmas.Table
/-!
# The zipped view of `StagesBuilder`: definitions, and what the scan decides

All five tables zipped cell-wise into one `List (List ZGroup)`. The placement function is
written once more on this view (`ZB.insert`, which is `place` after `target`), generically in the
join policy, the normalisation of the read list and the de-duplication of the dependency list.
What `target` decides (`target_stage`, `target_group`, `target_skips`) is stated in terms of `ZB.pend`,
the dependencies the scan still waits for at a stage. What `place` does, and the invariants of C01–C04,
C10 and C18, are in `Lemmas/ZipMore.lean`; `Lemmas/Sim.lean` shows that the mirrored five-table
`StagesBuilder.insert` is an instance.
-/
namespace Shred

structure ZGroup where
  ids : List Nat
  reads : List ResId
  writes : List ResId
  time : Nat
  sys : List Nat
deriving Repr

abbrev ZStage := List ZGroup

def ZStage.ids (st : ZStage) : List Nat := st.flatMap (·.ids)

def newGroup (id sys : Nat) (nr : List ResId) (d : Decl) : ZGroup :=
  { ids := [id], reads := nr, writes := d.writes, time := d.time, sys := [sys] }

def ZGroup.push (g : ZGroup) (id sys : Nat) (nr : List ResId) (d : Decl) : ZGroup :=
  { ids := g.ids ++ [id], reads := g.reads ++ nr, writes := g.writes ++ d.writes,
    time := g.time + d.time, sys := g.sys ++ [sys] }

def resHit (nr nw : List ResId) (g : ZGroup) : Bool := hit nr nw g.reads g.writes
def depHit (dep : List Nat) (g : ZGroup) : Bool := inter dep g.ids

def zHits (st : ZStage) (nr nw : List ResId) (dep : List Nat) : List Nat :=
  (List.range st.length).filter fun i =>
    match st[i]? with
    | some g => resHit nr nw g || depHit dep g
    | none => false

def zDepConflict (st : ZStage) (nr nw : List ResId) (dep : List Nat) : Bool :=
  st.any fun g => !resHit nr nw g && depHit dep g

def zFindConflict (st : ZStage) (nr nw : List ResId) (dep : List Nat) : Conflict :=
  let c := (zHits st nr nw dep).foldl Conflict.add .none
  let dc := zDepConflict st nr nw dep
  if (dc && dep.length > 1) || (!dc && !dep.isEmpty) then .multiple else c

/-- `remove_ids`: for every id of the stage, in order, erase its first occurrence in `dep`. -/
def zRemoveIds (st : ZStage) (dep : List Nat) : List Nat :=
  if dep.isEmpty then dep else (st.flatMap (·.ids)).foldl (fun d id => d.erase id) dep

/-- One step of the lazy `map`/`find`: what the scan decides for stage `st` with pending list `dep`. -/
inductive Verdict | newGroup | join (g : Nat) | reject
deriving DecidableEq, Repr

def zVerdict (joinOk : ZStage → Nat → Nat → Bool) (st : ZStage) (nr nw : List ResId) (dep : List Nat)
    (t : Nat) : Verdict :=
  match zFindConflict st nr nw dep with
  | .none => .newGroup
  | .single g => if joinOk st g t then .join g else .reject
  | .multiple => .reject

def zScan (joinOk : ZStage → Nat → Nat → Bool) (nr nw : List ResId) (t : Nat) :
    Nat → List ZStage → List Nat → InsertionTarget
  | _, [], _ => .newStage
  | i, st :: rest, dep =>
    match zVerdict joinOk st nr nw dep t with
    | .newGroup => .stage i
    | .join g => .group i g
    | .reject => zScan joinOk nr nw t (i + 1) rest (zRemoveIds st dep)

def zPending (sts : List ZStage) (dep : List Nat) : List Nat :=
  sts.foldl (fun d st => zRemoveIds st d) dep

/-- the stage a target names; `newStage` is the stage that will be appended behind the `len` existing ones -/
def InsertionTarget.stageOr (tg : InsertionTarget) (len : Nat) : Nat :=
  match tg with
  | .stage s => s
  | .group s _ => s
  | .newStage => len

structure ZB where
  barrier : Nat := 0
  stages : List ZStage := []

def ZB.allIds (b : ZB) : List Nat := b.stages.flatMap ZStage.ids

/-- the D3 repair: de-duplicate, then cross off what lies in front of the barrier -/
def zPrepDep (dedupN : List Nat → List Nat) (b : ZB) (dep : List Nat) : List Nat :=
  zPending (b.stages.take b.barrier) (dedupN dep)

/-- what the scan still waits for when it looks at stage `s`: the de-duplicated dependency list, with the
ids of the stages `0, …, s - 1` crossed off by `remove_ids`. The scan starts with this list at the barrier
(`zPrepDep_eq_pend`) and keeps it up to date from stage to stage (`pend_succ`). -/
def ZB.pend (dedupN : List Nat → List Nat) (b : ZB) (dep : List Nat) (s : Nat) : List Nat :=
  zPending (b.stages.take s) (dedupN dep)

def ZB.target (joinOk : ZStage → Nat → Nat → Bool) (dedupN : List Nat → List Nat)
    (b : ZB) (dep : List Nat) (nr : List ResId) (d : Decl) : InsertionTarget :=
  zScan joinOk nr d.writes d.time b.barrier (b.stages.drop b.barrier) (zPrepDep dedupN b dep)

def ZB.place (b : ZB) (tg : InsertionTarget) (id sys : Nat) (nr : List ResId) (d : Decl) : ZB :=
  match tg with
  | .stage s => { b with stages := b.stages.modify s (· ++ [newGroup id sys nr d]) }
  | .group s g => { b with stages := b.stages.modify s (fun st => st.modify g (·.push id sys nr d)) }
  | .newStage => { b with stages := b.stages ++ [[newGroup id sys nr d]] }

def ZB.insert (joinOk : ZStage → Nat → Nat → Bool) (norm : List ResId → List ResId)
    (dedupN : List Nat → List Nat) (b : ZB) (dep : List Nat) (id sys : Nat) (d : Decl) : ZB :=
  b.place (b.target joinOk dedupN dep (norm d.reads) d) id sys (norm d.reads) d

def ZB.addBarrier (b : ZB) : ZB := { b with barrier := b.stages.length }

def InStage (b : ZB) (s x : Nat) : Prop :=
  ∃ (st : ZStage) (g : ZGroup), b.stages[s]? = some st ∧ g ∈ st ∧ x ∈ g.ids

def SameGroupBefore (b : ZB) (A B : Nat) : Prop :=
  ∃ (s : Nat) (st : ZStage) (k : Nat) (g : ZGroup) (i j : Nat),
    b.stages[s]? = some st ∧ st[k]? = some g ∧ i < j ∧ g.ids[i]? = some A ∧ g.ids[j]? = some B

def OrderedBefore (b : ZB) (A B : Nat) : Prop :=
  (∃ sa sb, sa < sb ∧ InStage b sa A ∧ InStage b sb B) ∨ SameGroupBefore b A B

theorem fold_add_multiple (l : List Nat) : l.foldl Conflict.add .multiple = .multiple := by
  induction l with
  | nil => rfl
  | cons x xs ih => exact ih

/-- `Conflict::add` over the hits counts them up to two -/
theorem fold_add_eq (l : List Nat) :
    l.foldl Conflict.add .none =
      match l with
      | [] => .none
      | [k] => .single k
      | _ :: _ :: _ => .multiple := by
  match l with
  | [] => rfl
  | [_] => rfl
  | _ :: _ :: l => exact fold_add_multiple l

theorem fold_add_eq_none {l : List Nat} : l.foldl Conflict.add .none = .none ↔ l = [] := by
  rw [fold_add_eq]
  match l with
  | [] => exact ⟨fun _ => rfl, fun _ => rfl⟩
  | [_] => exact ⟨nofun, nofun⟩
  | _ :: _ :: _ => exact ⟨nofun, nofun⟩

theorem fold_add_eq_single {l : List Nat} {k : Nat} : l.foldl Conflict.add .none = .single k ↔ l = [k] := by
  rw [fold_add_eq]
  match l with
  | [] => exact ⟨nofun, nofun⟩
  | [g] => exact ⟨fun h => by cases h; rfl, fun h => by cases h; rfl⟩
  | _ :: _ :: _ => exact ⟨nofun, nofun⟩

theorem mem_hits {st : ZStage} {nr nw dep i} :
    i ∈ zHits st nr nw dep ↔ ∃ g, st[i]? = some g ∧ (resHit nr nw g || depHit dep g) = true := by
  simp only [zHits, List.mem_filter, List.mem_range]
  constructor
  · rintro ⟨hi, h⟩
    simp [hi] at h
    exact ⟨st[i], by simp [hi], by simpa using h⟩
  · rintro ⟨g, hg, h⟩
    refine ⟨(List.getElem?_eq_some_iff.mp hg).1, ?_⟩
    simp [hg, h]

section findConflict
variable {st : ZStage} {nr nw : List ResId} {dep : List Nat}

theorem zHits_eq_nil_iff :
    zHits st nr nw dep = [] ↔ ∀ g, g ∈ st → resHit nr nw g = false ∧ depHit dep g = false := by
  constructor
  · intro h g hg
    obtain ⟨i, hi⟩ := List.mem_iff_getElem?.mp hg
    exact Bool.or_eq_false_iff.mp (Bool.eq_false_iff.mpr fun hx =>
      List.not_mem_nil (h ▸ mem_hits.mpr ⟨g, hi, hx⟩))
  · intro h
    cases hz : zHits st nr nw dep with
    | nil => rfl
    | cons i l =>
      obtain ⟨g, hg, hx⟩ := mem_hits.mp (hz ▸ List.mem_cons_self)
      have := h g (List.mem_of_getElem? hg)
      rw [this.1, this.2] at hx; cases hx

theorem zDepConflict_eq_false_of (h : ∀ g, g ∈ st → depHit dep g = false) :
    zDepConflict st nr nw dep = false := by
  simp only [zDepConflict, List.any_eq_false]
  intro g hg; simp [h g hg]

/-- The last line of `find_conflict` overrides the fold over the hits with `Multiple` when two or more
dependencies are pending and a group without resource hit holds one, or when some are pending and no such group
holds one (`zFindConflict`, as `findConflictCols` in `Model/Stage.lean`). So an answer other than `Multiple` is the
fold over the hits, and nothing is pending, or one dependency is and a group without resource hit holds it. -/
theorem zFindConflict_ne_multiple {c : Conflict} (h : zFindConflict st nr nw dep = c) (hc : c ≠ .multiple) :
    (zHits st nr nw dep).foldl Conflict.add .none = c ∧
    (dep = [] ∨ ∃ d g, dep = [d] ∧ g ∈ st ∧ resHit nr nw g = false ∧ d ∈ g.ids) := by
  unfold zFindConflict at h
  simp only at h
  split at h
  · exact absurd h.symm hc
  · rename_i ho
    refine ⟨h, ?_⟩
    cases hdc : zDepConflict st nr nw dep with
    | false =>
      rw [hdc] at ho
      cases dep with
      | nil => exact Or.inl rfl
      | cons a l => exact absurd rfl ho
    | true =>
      rw [hdc] at ho
      obtain ⟨g, hg, hgd⟩ := List.any_eq_true.mp hdc
      rw [Bool.and_eq_true, Bool.not_eq_true'] at hgd
      obtain ⟨d, hd, hdg⟩ := inter_iff.mp hgd.2
      -- `dep` holds `d`, and no second element since the override did not fire
      cases dep with
      | nil => cases hd
      | cons d' l =>
        cases l with
        | nil => exact Or.inr ⟨d, g, by rw [List.mem_singleton.mp hd], hg, hgd.1, hdg⟩
        | cons _ _ => exact absurd rfl ho

theorem zFindConflict_eq_none_iff :
    zFindConflict st nr nw dep = .none ↔ (∀ g, g ∈ st → resHit nr nw g = false) ∧ dep = [] := by
  constructor
  · intro h
    obtain ⟨hf, hdep⟩ := zFindConflict_ne_multiple h nofun
    have hall := zHits_eq_nil_iff.mp (fold_add_eq_none.mp hf)
    refine ⟨fun g hg => (hall g hg).1, hdep.resolve_right ?_⟩
    rintro ⟨d, g, rfl, hg, _, hd⟩
    have := (hall g hg).2
    rw [← Bool.not_eq_true, depHit, inter_iff] at this
    exact this ⟨d, List.mem_singleton_self d, hd⟩
  · rintro ⟨hres, rfl⟩
    unfold zFindConflict
    rw [zDepConflict_eq_false_of fun g _ => inter_nil_left g.ids,
      zHits_eq_nil_iff.mpr fun g hg => ⟨hres g hg, inter_nil_left g.ids⟩]
    rfl

end findConflict

/-- `Single g`: group `g` is the only one with a resource hit or a dependency in it, and the pending list
is empty or is exactly one id, found in `g`. -/
theorem zFindConflict_single {st nr nw dep k} (h : zFindConflict st nr nw dep = .single k) :
    ∃ gk, st[k]? = some gk ∧
      (∀ i g, st[i]? = some g → i ≠ k → resHit nr nw g = false ∧ depHit dep g = false) ∧
      (dep = [] ∨ ∃ d, dep = [d] ∧ d ∈ gk.ids) := by
  obtain ⟨hf, hdep⟩ := zFindConflict_ne_multiple h nofun
  have hmem : ∀ i, i ∈ zHits st nr nw dep ↔ i = k := fun i => by
    rw [fold_add_eq_single.mp hf]; exact List.mem_singleton
  obtain ⟨gk, hgk, _⟩ := mem_hits.mp ((hmem k).mpr rfl)
  refine ⟨gk, hgk, fun i g hg hne => Bool.or_eq_false_iff.mp
    (Bool.eq_false_iff.mpr fun hx => hne ((hmem i).mp (mem_hits.mpr ⟨g, hg, hx⟩))), hdep.imp_right ?_⟩
  -- the group that holds the one pending dependency is a hit, so it is `gk`
  rintro ⟨d, g, rfl, hg, _, hd⟩
  obtain ⟨i, hi⟩ := List.mem_iff_getElem?.mp hg
  have hx : depHit [d] g = true := inter_iff.mpr ⟨d, List.mem_singleton_self d, hd⟩
  have hik := (hmem i).mp (mem_hits.mpr ⟨g, hi, by rw [hx, Bool.or_true]⟩)
  cases hgk.symm.trans (hik ▸ hi)
  exact ⟨d, rfl, hd⟩

section verdict
variable {joinOk : ZStage → Nat → Nat → Bool} {st : ZStage} {nr nw : List ResId} {dep : List Nat} {t : Nat}

theorem zVerdict_newGroup (h : zVerdict joinOk st nr nw dep t = .newGroup) : zFindConflict st nr nw dep = .none := by
  unfold zVerdict at h
  split at h
  · assumption
  · split at h <;> cases h
  · cases h

theorem zVerdict_join {g : Nat} (h : zVerdict joinOk st nr nw dep t = .join g) :
    zFindConflict st nr nw dep = .single g ∧ joinOk st g t = true := by
  unfold zVerdict at h
  split at h
  · cases h
  · rename_i g' hg'
    split at h
    · rename_i hj; cases h; exact ⟨hg', hj⟩
    · cases h
  · cases h

theorem zVerdict_reject (h : zVerdict joinOk st nr nw dep t = .reject) :
    (∃ g, g ∈ st ∧ resHit nr nw g = true) ∨ dep ≠ [] := by
  refine Classical.byContradiction fun hn => ?_
  have hnone : zFindConflict st nr nw dep = .none := zFindConflict_eq_none_iff.mpr
    ⟨fun g hg => Bool.eq_false_iff.mpr fun hr => hn (Or.inl ⟨g, hg, hr⟩),
      Classical.byContradiction fun hd => hn (Or.inr hd)⟩
  simp [zVerdict, hnone] at h

end verdict

theorem inStage_lt_length {b : ZB} {s x : Nat} (h : InStage b s x) : s < b.stages.length := by
  obtain ⟨st, _, hs, _⟩ := h
  exact (List.getElem?_eq_some_iff.mp hs).1

theorem mem_ids_take {b : ZB} {s x : Nat} :
    x ∈ (b.stages.take s).flatMap ZStage.ids ↔ ∃ j, j < s ∧ InStage b j x := by
  simp only [ZStage.ids, List.mem_flatMap, InStage]
  constructor
  · rintro ⟨st, hst, g, hg, hx⟩
    obtain ⟨j, hj⟩ := List.mem_iff_getElem?.mp hst
    rw [List.getElem?_take] at hj
    split at hj
    · exact ⟨j, ‹_›, st, g, hj, hg, hx⟩
    · cases hj
  · rintro ⟨j, hj, st, g, hst, hg, hx⟩
    exact ⟨st, List.mem_of_getElem? (by rw [List.getElem?_take, if_pos hj]; exact hst), g, hg, hx⟩

theorem mem_allIds_iff {b : ZB} {x : Nat} : x ∈ b.allIds ↔ ∃ s, InStage b s x := by
  have h := mem_ids_take (b := b) (s := b.stages.length) (x := x)
  rw [List.take_length] at h
  exact h.trans ⟨fun ⟨s, _, h⟩ => ⟨s, h⟩, fun ⟨s, h⟩ => ⟨s, inStage_lt_length h, h⟩⟩

/-- the early exit of `remove_ids` on an empty list changes nothing -/
theorem zRemoveIds_eq (st : ZStage) (dep : List Nat) :
    zRemoveIds st dep = st.ids.foldl (fun d id => d.erase id) dep := by
  unfold zRemoveIds
  split
  · rename_i h
    rw [List.isEmpty_iff.mp h]
    generalize st.ids = ids
    induction ids with
    | nil => rfl
    | cons i ids ih => exact ih
  · rfl

theorem zPending_eq (sts : List ZStage) (dep : List Nat) :
    zPending sts dep = (sts.flatMap ZStage.ids).foldl (fun d id => d.erase id) dep := by
  induction sts generalizing dep with
  | nil => rfl
  | cons st sts ih =>
    rw [zPending, List.foldl_cons, ← zPending, ih, zRemoveIds_eq]
    exact List.foldl_append.symm

section pend
variable {dedupN : List Nat → List Nat} {b : ZB} {dep : List Nat} {A s : Nat}

theorem zPrepDep_eq_pend : zPrepDep dedupN b dep = b.pend dedupN dep b.barrier := rfl

theorem pend_zero : b.pend dedupN dep 0 = dedupN dep := rfl

theorem pend_succ (dedupN : List Nat → List Nat) (b : ZB) (dep : List Nat) (s : Nat) :
    b.pend dedupN dep (s + 1) = zRemoveIds (b.stages.getD s []) (b.pend dedupN dep s) := by
  unfold ZB.pend
  by_cases hs : s < b.stages.length
  · rw [List.take_succ_eq_append_getElem hs, zPending, List.foldl_append,
      ← List.getElem_eq_getD (h := hs) []]
    rfl
  · -- past the last stage nothing is left to cross off: `take` saturates and `getD` gives `[]`, as in the
    -- code's loop over `0..barrier`
    have hs := Nat.le_of_not_lt hs
    rw [List.take_of_length_le hs, List.take_of_length_le (Nat.le_succ_of_le hs), List.getD_eq_getElem?_getD,
      List.getElem?_eq_none hs, zRemoveIds_eq]
    rfl

theorem mem_pend_or (hded : ∀ l x, x ∈ dedupN l ↔ x ∈ l) (hA : A ∈ dep) :
    A ∈ b.pend dedupN dep s ∨ ∃ j, j < s ∧ InStage b j A := by
  rw [ZB.pend, zPending_eq]
  exact (mem_foldl_erase _ _ ((hded dep A).mpr hA)).imp_right mem_ids_take.mp

theorem pend_sub (hded : ∀ l x, x ∈ dedupN l ↔ x ∈ l) (h : A ∈ b.pend dedupN dep s) : A ∈ dep := by
  rw [ZB.pend, zPending_eq] at h
  exact (hded dep A).mp (foldl_erase_sub _ _ h)

theorem not_inStage_of_mem_pend (hnodup : ∀ l, (dedupN l).Nodup) (h : A ∈ b.pend dedupN dep s) {j : Nat}
    (hj : j < s) (hin : InStage b j A) : False := by
  rw [ZB.pend, zPending_eq] at h
  exact not_mem_foldl_erase _ _ (hnodup dep) (mem_ids_take.mpr ⟨j, hj, hin⟩) h

end pend

section scan
variable {joinOk : ZStage → Nat → Nat → Bool} {dedupN : List Nat → List Nat} {nr nw : List ResId}
  {t : Nat} {b : ZB} {dep : List Nat}

/-- what a scan over the stages `lo, lo + 1, …` of `b` may answer: every stage from `lo` up to the answer's
is rejected, the answer's own stage is not -/
structure ScanSpec (joinOk : ZStage → Nat → Nat → Bool) (dedupN : List Nat → List Nat)
    (nr nw : List ResId) (t : Nat) (b : ZB) (dep : List Nat) (lo : Nat) (tg : InsertionTarget) : Prop where
  skipped : ∀ s, lo ≤ s → s < tg.stageOr b.stages.length →
    ∃ st, b.stages[s]? = some st ∧ zVerdict joinOk st nr nw (b.pend dedupN dep s) t = .reject
  stage : ∀ s, tg = .stage s →
    lo ≤ s ∧ ∃ st, b.stages[s]? = some st ∧ zVerdict joinOk st nr nw (b.pend dedupN dep s) t = .newGroup
  group : ∀ s g, tg = .group s g →
    lo ≤ s ∧ ∃ st, b.stages[s]? = some st ∧ zVerdict joinOk st nr nw (b.pend dedupN dep s) t = .join g

theorem ScanSpec.reject {lo : Nat} {tg : InsertionTarget}
    (h : ScanSpec joinOk dedupN nr nw t b dep (lo + 1) tg) {st : ZStage} (hst : b.stages[lo]? = some st)
    (hv : zVerdict joinOk st nr nw (b.pend dedupN dep lo) t = .reject) :
    ScanSpec joinOk dedupN nr nw t b dep lo tg where
  skipped s hs1 hs2 := by
    rcases Nat.eq_or_lt_of_le hs1 with rfl | hs
    · exact ⟨st, hst, hv⟩
    · exact h.skipped s hs hs2
  stage s e := ⟨Nat.le_of_succ_le (h.stage s e).1, (h.stage s e).2⟩
  group s g e := ⟨Nat.le_of_succ_le (h.group s g e).1, (h.group s g e).2⟩

theorem zScan_spec (n : Nat) : ∀ lo, b.stages.length - lo = n →
    ScanSpec joinOk dedupN nr nw t b dep lo
      (zScan joinOk nr nw t lo (b.stages.drop lo) (b.pend dedupN dep lo)) := by
  induction n with
  | zero =>
    intro lo hlo
    have hlo : b.stages.length ≤ lo := Nat.le_of_sub_eq_zero hlo
    rw [List.drop_eq_nil_of_le hlo]
    exact { skipped := fun s h1 h2 => absurd (Nat.lt_of_le_of_lt h1 h2) (Nat.not_lt.mpr hlo)
            stage := nofun
            group := nofun }
  | succ n ih =>
    intro lo hlo
    have hlt : lo < b.stages.length := Nat.lt_of_sub_pos (hlo ▸ Nat.succ_pos n)
    have hget : b.stages[lo]? = some b.stages[lo] := List.getElem?_eq_getElem hlt
    rw [List.drop_eq_getElem_cons hlt, zScan]
    cases hv : zVerdict joinOk b.stages[lo] nr nw (b.pend dedupN dep lo) t with
    | newGroup =>
      exact { skipped := fun s h1 h2 => absurd h2 (Nat.not_lt.mpr h1)
              stage := fun s h => by cases h; exact ⟨Nat.le_refl _, _, hget, hv⟩
              group := nofun }
    | join g =>
      exact { skipped := fun s h1 h2 => absurd h2 (Nat.not_lt.mpr h1)
              stage := nofun
              group := fun s g' h => by cases h; exact ⟨Nat.le_refl _, _, hget, hv⟩ }
    | reject =>
      have := ih (lo + 1) (by rw [Nat.sub_succ, hlo]; rfl)
      rw [pend_succ, ← List.getElem_eq_getD (h := hlt) []] at this
      exact this.reject hget hv

end scan

section target
variable {joinOk : ZStage → Nat → Nat → Bool} {dedupN : List Nat → List Nat}
  {b : ZB} {dep : List Nat} {nr : List ResId} {d : Decl}

theorem target_spec :
    ScanSpec joinOk dedupN nr d.writes d.time b dep b.barrier (b.target joinOk dedupN dep nr d) := by
  rw [ZB.target, zPrepDep_eq_pend]
  exact zScan_spec _ b.barrier rfl

theorem target_stage {s : Nat} (h : b.target joinOk dedupN dep nr d = .stage s) :
    b.barrier ≤ s ∧ ∃ st, b.stages[s]? = some st ∧
      (∀ g, g ∈ st → resHit nr d.writes g = false) ∧ b.pend dedupN dep s = [] := by
  obtain ⟨hle, st, hst, hv⟩ := target_spec.stage s h
  exact ⟨hle, st, hst, zFindConflict_eq_none_iff.mp (zVerdict_newGroup hv)⟩

theorem target_group {s g : Nat} (h : b.target joinOk dedupN dep nr d = .group s g) :
    b.barrier ≤ s ∧ ∃ st gk, b.stages[s]? = some st ∧ st[g]? = some gk ∧ joinOk st g d.time = true ∧
      (∀ i gi, st[i]? = some gi → i ≠ g → resHit nr d.writes gi = false) ∧
      (b.pend dedupN dep s = [] ∨ ∃ a, b.pend dedupN dep s = [a] ∧ a ∈ gk.ids) := by
  obtain ⟨hle, st, hst, hv⟩ := target_spec.group s g h
  obtain ⟨hfc, hj⟩ := zVerdict_join hv
  obtain ⟨gk, hgk, hothers, hdep⟩ := zFindConflict_single hfc
  exact ⟨hle, st, gk, hst, hgk, hj, fun i gi hi hne => (hothers i gi hi hne).1, hdep⟩

theorem target_skips {s : Nat} (hs1 : b.barrier ≤ s)
    (hs2 : s < (b.target joinOk dedupN dep nr d).stageOr b.stages.length) :
    ∃ st, b.stages[s]? = some st ∧
      ((∃ g, g ∈ st ∧ resHit nr d.writes g = true) ∨ b.pend dedupN dep s ≠ []) := by
  obtain ⟨st, hst, hv⟩ := target_spec.skipped s hs1 hs2
  exact ⟨st, hst, zVerdict_reject hv⟩

end target

end Shred
