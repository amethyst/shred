import ShredModel.Lemmas.Nested
import ShredModel.Lemmas.Relabel
import ShredModel.Lemmas.Scenario
import ShredModel.Lemmas.Batch
/-!
# Every registration sequence gives a level

`Scenario.level` produces a `Level` (`Lemmas/Nested.lean`) from a registration sequence run
through the **tagged** five-table builder — the very function the driver executes: the tagged
table is the executed table of the proofs mapped by the tagging (`taggedStages_eq`), and
isolation, distinctness and layout order carry over along the map. `sub_batchDecl`: the
declaration `add_batch` computes for that builder covers its systems, which is what
`Level.body` asks for. Iterating the two gives dispatchers with batches nested to any depth.
-/
namespace Shred
open Shred.Task

theorem flatten_mapT (τ : Nat → SysTag) (t : Table (List Nat)) :
    (mapT τ t).flatten.flatten = t.flatten.flatten.map τ := by
  rw [List.map_flatten, List.map_flatten]; rfl

theorem isoTable_mapT {D : Nat → Decl} {D' : SysTag → Decl} {τ : Nat → SysTag} {t : Table (List Nat)}
    (hD : ∀ i, i ∈ t.flatten.flatten → D' (τ i) = D i) (h : IsoTable D t) : IsoTable D' (mapT τ t) := by
  intro st' hst' i j gi' gj' hi hj hij a' ha' c' hc'
  obtain ⟨st, hst, rfl⟩ := List.mem_map.mp hst'
  obtain ⟨gi, hgi, rfl⟩ := exists_of_getElem?_map hi
  obtain ⟨gj, hgj, rfl⟩ := exists_of_getElem?_map hj
  obtain ⟨a, ha, rfl⟩ := List.mem_map.mp ha'
  obtain ⟨c, hc, rfl⟩ := List.mem_map.mp hc'
  have hmem : ∀ {g : List Nat} {k x}, st[k]? = some g → x ∈ g → x ∈ t.flatten.flatten := fun hg hx =>
    List.mem_flatten.mpr ⟨_, List.mem_flatten.mpr ⟨st, hst, List.mem_of_getElem? hg⟩, hx⟩
  rw [hD a (hmem hgi ha), hD c (hmem hgj hc)]
  exact h st hst i j gi gj hgi hgj hij a ha c hc

theorem TOrdered.mapT {t : Table (List Nat)} {A B : Nat} (τ : Nat → SysTag) (h : TOrdered t A B) :
    TOrdered (mapT τ t) (τ A) (τ B) := by
  rcases h with ⟨sa, sb, sta, stb, hlt, hsa, hsb, hA, hB⟩ | ⟨s, st, k, g, i, j, hs, hk, hij, hi, hj⟩
  · exact .inl ⟨sa, sb, _, _, hlt, getElem?_map_of_some _ hsa, getElem?_map_of_some _ hsb,
      List.map_flatten ▸ List.mem_map_of_mem hA, List.map_flatten ▸ List.mem_map_of_mem hB⟩
  · exact .inr ⟨s, _, k, _, i, j, getElem?_map_of_some _ hs, getElem?_map_of_some _ hk, hij,
      getElem?_map_of_some τ hi, getElem?_map_of_some τ hj⟩

namespace Scenario
variable (sc : Scenario)

/-- the executed table of the **tagged** builder run (what the driver computes) -/
def taggedStages (τ : Nat → SysTag) : Table (List SysTag) := (runOpsT τ sc.ops).1.stages

theorem tagRel (τ : Nat → SysTag) : TagRel τ sc.final.b (runOpsT τ sc.ops).1 := by
  have h := (runOpsT_rel τ sc.ops).1
  rwa [show (runOps sc.ops).1 = sc.final.b from (congrArg Prod.fst (gstate_foldl sc.ops {})).symm] at h

theorem taggedStages_eq (τ : Nat → SysTag) : sc.taggedStages τ = mapT τ sc.final.b.stages :=
  (sc.tagRel τ).stages

/-- **every registration sequence gives a level** (tags `τ` injective on the registered ids and
distinct from the thread-local tags; declarations by tag; bodies already known to be good) -/
def level (τ : Nat → SysTag) (D' : SysTag → Decl) (hτ : ∀ i j, i < sc.final.n → j < sc.final.n → τ i = τ j → i = j)
    (hD : ∀ i, i < sc.final.n → D' (τ i) = sc.D i) (tl : List SysTag) (htl : tl.Nodup)
    (hfresh : ∀ i, i < sc.final.n → τ i ∉ tl) (bs : List (SysTag × Body)) (hbs : BodiesOK D' bs) : Level D' where
  stages := sc.taggedStages τ
  tl := tl
  bs := bs
  iso := by
    rw [taggedStages_eq]
    exact isoTable_mapT (fun i hi => hD i ((sc.mem_stages _).mp hi)) sc.iso
  tags := by
    rw [taggedStages_eq, flatten_mapT]
    refine List.nodup_append.mpr ⟨?_, htl, ?_⟩
    · exact List.pairwise_map.mpr ((List.nodup_append.mp sc.tags).1.imp_of_mem fun ha hb hne heq =>
        hne (hτ _ _ ((sc.mem_stages _).mp ha) ((sc.mem_stages _).mp hb) heq))
    · intro x hx y hy hxy
      obtain ⟨i, hi, rfl⟩ := List.mem_map.mp hx
      exact hfresh i ((sc.mem_stages _).mp hi) (hxy ▸ hy)
  bodies := hbs

end Scenario

/-- **C07 (the declaration `add_batch` computes covers the inner systems)**, for the tagged
inner builder the driver holds -/
theorem sub_batchDecl (sc : Scenario) (τ : Nat → SysTag) (D' : SysTag → Decl)
    (hD : ∀ i, i < sc.final.n → D' (τ i) = sc.D i) (inner : DispatcherBuilder)
    (hinner : inner.stagesBuilder = (runOpsT τ sc.ops).1) (ctl : Decl) :
    ∀ t, t ∈ (sc.taggedStages τ).flatten.flatten → Sub (D' t) (DispatcherBuilder.batchDecl inner ctl) := by
  intro t ht
  rw [sc.taggedStages_eq, flatten_mapT] at ht
  obtain ⟨i, hi, rfl⟩ := List.mem_map.mp ht
  have hin := (sc.mem_stages i).mp hi
  rw [hD i hin]
  exact sub_batchDecl_sys sc.good inner (hinner ▸ (sc.tagRel τ).reads) (hinner ▸ (sc.tagRel τ).writes) ctl hin

end Shred
