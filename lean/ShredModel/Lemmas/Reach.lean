import ShredModel.Lemmas.Sim
import ShredModel.Model.Plan
/-!
# Every reachable builder is good

`Good D Dep g`: the mirrored builder `g.b` (after `g.n` registrations whose declarations are
`D` and whose dependency lists are `Dep`) is zipped by some `z` satisfying all plan-level
invariants. Proved for every sequence of registrations by induction.
-/
namespace Shred

/-- the join policy of the mirror refuses groups of four -/
theorem zJoinOk_policy (st : ZStage) (g t : Nat) (h : zJoinOk st g t = true) (gk : ZGroup)
    (hgk : st[g]? = some gk) : gk.sys.length + 1 < 5 := by
  unfold zJoinOk StagesBuilder.joinOkCols at h
  simp only [Bool.and_eq_true, decide_eq_true_eq] at h
  have := h.1
  rw [getD_map st _ g _ gk hgk] at this
  simp [maxSystemsPerGroup] at this
  omega

/-- proof-side state: the builder, the number of registrations so far, and (ghost) the values
that number had at each barrier -/
structure GState where
  b : StagesBuilder := {}
  n : Nat := 0
  bars : List Nat := []

def GState.step (g : GState) : SOp → GState
  | .insert dep d => { g with b := g.b.insert dep g.n g.n d, n := g.n + 1 }
  | .barrier => { g with b := g.b.addBarrier, bars := g.n :: g.bars }

theorem GState.step_proj (g : GState) (op : SOp) :
    ((g.step op).b, (g.step op).n) = SOp.step (g.b, g.n) op := by
  cases op <;> rfl

theorem gstate_foldl (ops : List SOp) (g : GState) :
    ((ops.foldl GState.step g).b, (ops.foldl GState.step g).n) = ops.foldl SOp.step (g.b, g.n) := by
  induction ops generalizing g with
  | nil => rfl
  | cons op ops ih => rw [List.foldl_cons, List.foldl_cons, ih, GState.step_proj]

/-- `z` is a zipped view of the mirrored builder `g.b` and has every plan-level invariant, for the
declarations `D` and dependency lists `Dep` of the `g.n` registrations made so far -/
structure GoodZ (D : Nat → Decl) (Dep : Nat → List Nat) (g : GState) (z : ZB) : Prop where
  zips : Zips g.b z
  ok : z.OK D
  fit : z.Fit D 5
  /-- exactly the systems registered so far are placed, each once (C04) -/
  ids : ∀ x, z.allIds.count x = if x < g.n then 1 else 0
  /-- a dependency is ordered before its dependent (C02) -/
  deps : ∀ B A, B < g.n → A ∈ Dep B → OrderedBefore z A B
  bars_le : ∀ k, k ∈ g.bars → k ≤ g.n
  /-- what was registered before any recorded barrier lies in front of the *current* barrier: `insert`
  places at or behind that one, which is what carries `sep` through an `insert` -/
  low : ∀ k, k ∈ g.bars → ∀ x, x < k → ∀ s, InStage z s x → s < z.barrier
  /-- what was registered before barrier `k` lies in an earlier stage than what was registered after it (C03) -/
  sep : ∀ k, k ∈ g.bars → ∀ x y, x < k → k ≤ y → y < g.n →
          ∀ sx sy, InStage z sx x → InStage z sy y → sx < sy

def Good (D : Nat → Decl) (Dep : Nat → List Nat) (g : GState) : Prop := ∃ z, GoodZ D Dep g z

theorem GoodZ.placed {D Dep g z} (h : GoodZ D Dep g z) {x : Nat} (hx : x < g.n) : ∃ s, InStage z s x :=
  mem_allIds_iff.mp ((mem_iff_of_count_lt h.ids x).mpr hx)

theorem GoodZ.lt_of_inStage {D Dep g z} (h : GoodZ D Dep g z) {s x : Nat} (hs : InStage z s x) : x < g.n :=
  (mem_iff_of_count_lt h.ids x).mp (mem_allIds_iff.mpr ⟨s, hs⟩)

theorem GoodZ.barrier_le {D Dep g z} (h : GoodZ D Dep g z) : z.barrier ≤ z.stages.length :=
  (zips_iff.mp h.zips).2

theorem good_init (D : Nat → Decl) (Dep : Nat → List Nat) : Good D Dep {} :=
  -- no stage, no registration, no barrier: every field but `zips` ranges over an empty list or over `x < 0`
  have nil {α} {P : Prop} (a : α) (h : a ∈ []) : P := absurd h List.not_mem_nil
  ⟨{}, { zips := zips_init
         ok := fun _ => nil _
         fit := fun _ => nil _
         ids := fun _ => rfl
         deps := fun _ _ h => absurd h (Nat.not_lt_zero _)
         bars_le := fun _ => nil _
         low := fun _ => nil _
         sep := fun _ => nil _ }⟩

theorem count_step (x n : Nat) :
    (if x < n then 1 else 0) + (if x = n then 1 else 0) = if x < n + 1 then 1 else 0 := by
  rcases Nat.lt_trichotomy x n with h | rfl | h
  · rw [if_pos h, if_neg (Nat.ne_of_lt h), if_pos (Nat.lt_succ_of_lt h)]
  · rw [if_neg (Nat.lt_irrefl _), if_pos rfl, if_pos (Nat.lt_succ_self _)]
  · rw [if_neg (Nat.lt_asymm h), if_neg (Nat.ne_of_gt h), if_neg (Nat.not_lt.mpr h)]

theorem good_insert {D : Nat → Decl} {Dep : Nat → List Nat} {g : GState} (hg : Good D Dep g)
    (dep : List Nat) (d : Decl) (hD : D g.n = d) (hDep : Dep g.n = dep) (hlt : ∀ A, A ∈ dep → A < g.n) :
    Good D Dep (g.step (.insert dep d)) := by
  obtain ⟨z, hz⟩ := hg
  have hv : ValidTarget z (z.target zJoinOk dedup dep (sortDedup d.reads) d) := target_valid ..
  -- an old id stays in its stage; the new one is in the target's stage only, at or behind the barrier
  have hpos : ∀ s x, InStage (z.insert zJoinOk sortDedup dedup dep g.n g.n d) s x →
      (x < g.n ∧ InStage z s x) ∨ (x = g.n ∧ z.barrier ≤ s) := by
    intro s x h
    rcases inStage_place z _ g.n g.n _ d h with h | ⟨rfl, rfl⟩
    · exact Or.inl ⟨hz.lt_of_inStage h, h⟩
    · exact Or.inr ⟨rfl, hv.barrier_le hz.barrier_le⟩
  refine ⟨z.insert zJoinOk sortDedup dedup dep g.n g.n d,
    { zips := insert_sim hz.zips dep g.n g.n d
      ok := insert_preserves_OK zJoinOk sortDedup (fun l x => mem_sortDedup) dedup z dep g.n g.n d hD hz.ok
      fit := insert_fit (by omega) zJoinOk zJoinOk_policy sortDedup dedup z hz.fit dep g.n d hD
      bars_le := fun k hk => Nat.le_succ_of_le (hz.bars_le k hk)
      ids := ?ids, deps := ?deps, low := ?low, sep := ?sep }⟩
  case ids =>
    intro x
    rw [insert_count, hz.ids x]
    exact count_step x g.n
  case deps =>
    intro B A hB hA
    rcases Nat.lt_succ_iff_lt_or_eq.mp hB with hB | rfl
    · exact place_mono_ordered z _ g.n g.n _ d (hz.deps B A hB hA)
    · rw [hDep] at hA
      exact insert_orders_deps zJoinOk sortDedup dedup (fun l x => mem_dedup) z hz.barrier_le dep g.n g.n d A hA
        (hz.placed (hlt A hA))
  -- in both, `x < k` for a recorded barrier value `k ≤ g.n`: `x` is not the new id
  case low =>
    intro k hk x hx s hs
    rcases hpos s x hs with ⟨_, h⟩ | ⟨rfl, _⟩
    · exact place_barrier z .. ▸ hz.low k hk x hx s h
    · exact absurd hx (Nat.not_lt.mpr (hz.bars_le k hk))
  case sep =>
    intro k hk x y hx hky hy sx sy hsx hsy
    rcases hpos sx x hsx with ⟨_, hx'⟩ | ⟨rfl, _⟩
    · rcases hpos sy y hsy with ⟨hy', hy''⟩ | ⟨rfl, hle⟩
      · exact hz.sep k hk x y hx hky hy' sx sy hx' hy''
      · exact Nat.lt_of_lt_of_le (hz.low k hk x hx sx hx') hle
    · exact absurd hx (Nat.not_lt.mpr (hz.bars_le k hk))

theorem good_barrier {D : Nat → Decl} {Dep : Nat → List Nat} {g : GState} (hg : Good D Dep g) :
    Good D Dep (g.step .barrier) := by
  obtain ⟨z, hz⟩ := hg
  -- `addBarrier` leaves the stages alone: only the three fields about barriers have something to show
  refine ⟨z.addBarrier,
    { hz with zips := addBarrier_sim hz.zips, bars_le := ?bars_le, low := ?low, sep := ?sep }⟩
  case bars_le =>
    intro k hk
    rcases List.mem_cons.mp hk with rfl | hk
    · exact Nat.le_refl _
    · exact hz.bars_le k hk
  case low =>
    intro k hk x hx s hs
    exact inStage_lt_length hs
  case sep =>
    intro k hk x y hx hky hy sx sy hsx hsy
    rcases List.mem_cons.mp hk with rfl | hk
    · exact absurd hy (Nat.not_lt.mpr hky)
    · exact hz.sep k hk x y hx hky hy sx sy hsx hsy

/-- `D`, `Dep` are the declarations / dependency lists of the registration sequence, and every
dependency refers to an earlier registration (what `DispatcherBuilder::add` guarantees) -/
def Consistent (D : Nat → Decl) (Dep : Nat → List Nat) : Nat → List SOp → Prop
  | _, [] => True
  | n, .insert dep d :: ops => D n = d ∧ Dep n = dep ∧ (∀ A, A ∈ dep → A < n) ∧ Consistent D Dep (n + 1) ops
  | n, .barrier :: ops => Consistent D Dep n ops

theorem good_foldl {D : Nat → Decl} {Dep : Nat → List Nat} (ops : List SOp) (g : GState)
    (hg : Good D Dep g) (hc : Consistent D Dep g.n ops) : Good D Dep (ops.foldl GState.step g) := by
  induction ops generalizing g with
  | nil => exact hg
  | cons op ops ih =>
    cases op with
    | insert dep d => exact ih _ (good_insert hg dep d hc.1 hc.2.1 hc.2.2.1) hc.2.2.2
    | barrier => exact ih _ (good_barrier hg) hc

theorem good_run {D : Nat → Decl} {Dep : Nat → List Nat} (ops : List SOp) (hc : Consistent D Dep 0 ops) :
    Good D Dep (ops.foldl GState.step {}) :=
  good_foldl ops {} (good_init D Dep) hc

#print axioms good_run
end Shred
