import ShredModel.Model.Async
/-!
# Soundness of the merged-log acceptor

A log the driver accepts is the log of a run of the transition system (`Run`), hence everything
proved about all runs holds of it: `feed` takes only steps of `step`.
-/
namespace Shred
namespace Async

theorem tryStep_run {P : APlan} {c : Ctl} {l : List AEv} (h : Run P c l) (lb : Lbl) :
    Run P (tryStep P c lb) l := by
  unfold tryStep
  split
  next c' hs => exact (show l ++ optList none = l from List.append_nil l) ▸ Run.step h hs
  next => exact h

theorem visStep_run {P : APlan} {c c' : Ctl} {l : List AEv} {lb : Lbl} {o : AEv} (h : Run P c l)
    (hv : visStep P c lb o = some c') : Run P c' (l ++ [o]) := by
  unfold visStep at hv
  split at hv
  next c'' o' hs =>
    split at hv
    next heq =>
      cases hv
      exact heq ▸ Run.step h hs
    next => cases hv
  next => cases hv

theorem feed_run {P : APlan} {c c' : Ctl} {l : List AEv} {o : AEv} (h : Run P c l)
    (hf : feed P c o = some c') : Run P c' (l ++ [o]) := by
  -- one case per arm of `feed`, in its order
  unfold feed at hf
  split at hf
  · exact visStep_run h hf                                  -- `.call`
  · exact visStep_run (tryStep_run h _) hf                  -- `.ret .running true`
  · refine visStep_run (tryStep_run ?_ _) hf                -- any other `.ret`
    split
    · exact tryStep_run (tryStep_run (tryStep_run h _) _) _
    · exact h
  · refine visStep_run ?_ hf                                -- `.tl`
    split
    · exact tryStep_run (tryStep_run h _) _
    · exact h
  · exact visStep_run h hf                                  -- `.quiet`
  · exact visStep_run h hf                                  -- `.sysP`
  · exact visStep_run h hf                                  -- `.tlP`
  · refine visStep_run ?_ hf                                -- `.unwound`
    split
    · exact tryStep_run h _
    · exact h
  · refine visStep_run ?_ hf                                -- `.hook`
    split
    · exact tryStep_run (tryStep_run h _) _
    · exact h
  · exact visStep_run (tryStep_run h _) hf                  -- `.gone`
  · split at hf                                             -- `.sys`: of the running job, or else
    · rename_i c'' hv                                       -- the first of the next dispatch
      cases hf
      exact visStep_run h hv
    · refine visStep_run (tryStep_run ?_ _) hf
      split
      · exact tryStep_run (tryStep_run h _) _
      · exact h

theorem feedAll_run {P : APlan} {c c' : Ctl} {l l' : List AEv} (h : Run P c l)
    (hf : feedAll P c l' = some c') : Run P c' (l ++ l') := by
  induction l' generalizing c l with
  | nil => cases hf; exact (List.append_nil l).symm ▸ h
  | cons o l' ih =>
    simp only [feedAll] at hf
    split at hf
    next c1 h1 => exact List.append_cons l o l' ▸ ih (feed_run h h1) hf
    next => cases hf

/-- **Soundness of the acceptor.** A merged log (caller `call`/`ret` events + system events)
accepted by the executable acceptor is the log of a run of the transition system. -/
theorem acceptsLog_sound {P : APlan} {l : List AEv} (h : acceptsLog P l = true) :
    ∃ c, Run P c l ∧ c.final = true := by
  unfold acceptsLog at h
  split at h
  next c hc => exact ⟨c, feedAll_run Run.init hc, h⟩
  next => cases h

end Async
end Shred
