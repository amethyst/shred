import ShredModel.Model.Pool
/-!
# Lemmas for C11: the pool state machine, the pool slots of `builder.rs`, the async call sequences

Each of the three models gets the one fact its theorems rest on: what a step does to the four
counters, and from it the invariant of the reachable states (`pool_inv`); what a builder's slot
finally holds (`PB.slot_some_eq`); what `others` is after any call sequence (`ASt.run_spec`).
-/
namespace Shred

theorem PoolSt.canStart_iff {s : PoolSt} : s.canStart = true ↔ 0 < s.idle ∧ 0 < s.pending := by
  simp only [PoolSt.canStart, Bool.and_eq_true, decide_eq_true_eq]

theorem PoolSt.canFinish_iff {n : Nat} {s : PoolSt} :
    s.canFinish n = true ↔ s.inside + s.done = n ∧ 0 < s.inside := by
  simp only [PoolSt.canFinish, Bool.and_eq_true, beq_iff_eq, decide_eq_true_eq]

/-- Stated with `+ 1` on the other side, because `omega` is slow on the truncated `- 1` of `start` /
`finish` themselves. -/
theorem PoolStep.counters {n : Nat} {s s' : PoolSt} (h : PoolStep n s s') :
    (s.idle = s'.idle + 1 ∧ s.pending = s'.pending + 1 ∧ s'.inside = s.inside + 1 ∧
      s'.done = s.done) ∨
    (s'.idle = s.idle + 1 ∧ s'.pending = s.pending ∧ s.inside = s'.inside + 1 ∧
      s'.done = s.done + 1 ∧ s.inside + s.done = n) := by
  cases h with
  | start hc =>
    obtain ⟨hi, hp⟩ := PoolSt.canStart_iff.1 hc
    exact .inl ⟨(Nat.sub_add_cancel hi).symm, (Nat.sub_add_cancel hp).symm, rfl, rfl⟩
  | finish hc =>
    obtain ⟨hn, hi⟩ := PoolSt.canFinish_iff.1 hc
    exact .inr ⟨rfl, rfl, (Nat.sub_add_cancel hi).symm, rfl, hn⟩

theorem poolStep_exists_iff {n : Nat} {s : PoolSt} :
    (∃ s', PoolStep n s s') ↔ s.canStart = true ∨ s.canFinish n = true := by
  constructor
  · rintro ⟨_, h⟩
    cases h with
    | start hc => exact .inl hc
    | finish hc => exact .inr hc
  · rintro (hc | hc)
    · exact ⟨_, .start hc⟩
    · exact ⟨_, .finish hc⟩

theorem PoolStep.conserves {n : Nat} {s s' : PoolSt} (h : PoolStep n s s') :
    s'.idle + s'.inside = s.idle + s.inside ∧
      s'.pending + s'.inside + s'.done = s.pending + s.inside + s.done := by
  rcases h.counters with ⟨e1, e2, e3, e4⟩ | ⟨e1, e2, e3, e4, _⟩
  · rw [e1, e2, e3, e4]; exact ⟨by ac_rfl, by ac_rfl⟩
  · rw [e1, e2, e3, e4]; exact ⟨by ac_rfl, by ac_rfl⟩

theorem PoolStep.decreases {n : Nat} {s s' : PoolSt} (h : PoolStep n s s') :
    2 * s'.pending + s'.inside < 2 * s.pending + s.inside := by
  rcases h.counters with ⟨_, e2, e3, _⟩ | ⟨_, e2, e3, _, _⟩
  · rw [e2, e3]; omega
  · rw [e2, e3]; omega

/-- workers and systems are conserved; somebody has left only after every group was started and all `n`
were inside at once, i.e. there were `n` workers -/
theorem pool_inv {w n : Nat} {s : PoolSt} (h : PoolReach w n s) :
    s.idle + s.inside = w ∧ s.pending + s.inside + s.done = n ∧
      (0 < s.done → s.pending = 0 ∧ n ≤ w) := by
  induction h with
  | init => exact ⟨rfl, rfl, fun h => absurd h (Nat.lt_irrefl 0)⟩
  | @step s s' _ hs ih =>
    obtain ⟨h1, h2, h3⟩ := ih
    refine ⟨hs.conserves.1.trans h1, hs.conserves.2.trans h2, fun hd => ?_⟩
    rcases hs.counters with ⟨_, e2, _, e4⟩ | ⟨_, e2, _, _, e5⟩
    · -- a start after somebody left: impossible, nothing was pending
      exact absurd (e2.symm.trans (h3 (e4 ▸ hd)).1) (Nat.succ_ne_zero _)
    · rw [e2]
      rcases Nat.eq_zero_or_pos s.done with h0 | h0
      · -- the first to leave: `inside = n`, and every system inside holds a worker
        rw [h0, Nat.add_zero] at e5 h2
        rw [e5] at h1 h2
        exact ⟨Nat.add_right_cancel (h2.trans (Nat.zero_add n).symm), h1 ▸ Nat.le_add_left n _⟩
      · exact h3 h0

/-- the first `k` steps of every run that starts as many groups as it can -/
theorem reach_starts (w n k : Nat) (hk : k ≤ w) (hkn : k ≤ n) :
    PoolReach w n ⟨w - k, n - k, k, 0⟩ := by
  induction k with
  | zero => exact .init
  | succ k ih =>
    have h := PoolReach.step (ih (Nat.le_of_succ_le hk) (Nat.le_of_succ_le hkn))
      (.start (PoolSt.canStart_iff.2 ⟨Nat.sub_pos_of_lt hk, Nat.sub_pos_of_lt hkn⟩))
    rwa [PoolSt.start, Nat.sub_sub, Nat.sub_sub] at h

/-- the fuel bounds the measure `2·pending + inside` of `PoolStep.decreases` -/
theorem PoolSt.run_spec {w n : Nat} (fuel : Nat) {s : PoolSt} (h : PoolReach w n s)
    (hm : 2 * s.pending + s.inside ≤ fuel) :
    PoolReach w n (s.run n fuel) ∧ (s.run n fuel).canStart = false ∧
      (s.run n fuel).canFinish n = false := by
  induction fuel generalizing s with
  | zero =>
    show PoolReach w n s ∧ s.canStart = false ∧ s.canFinish n = false
    refine ⟨h, Bool.eq_false_iff.2 fun hc => ?_, Bool.eq_false_iff.2 fun hc => ?_⟩
    · have := (PoolSt.canStart_iff.1 hc).2; omega
    · have := (PoolSt.canFinish_iff.1 hc).2; omega
  | succ fuel ih =>
    have next {s'} (st : PoolStep n s s') :=
      ih (.step h st) (Nat.le_of_lt_succ (Nat.lt_of_lt_of_le st.decreases hm))
    unfold PoolSt.run
    cases hs : s.canStart with
    | true => exact next (.start hs)
    | false =>
      cases hf : s.canFinish n with
      | true => exact next (.finish hf)
      | false => exact ⟨h, hs, hf⟩

/-- once the slot holds anything: the pool supplied last on that builder, else what it held before
(`add_batch` only fills an empty slot) -/
theorem PB.slot_some_eq (dflt : Nat) (b : PB) (x : Nat) :
    b.slot dflt (some x) = some (b.lastPool.getD x) := by
  induction b generalizing x with
  | nil => rfl
  | pool p r ih =>
    rw [PB.slot, ih, PB.lastPool]
    cases r.lastPool <;> rfl
  | batch t ws inner r _ ih => exact ih x

theorem PB.slot_getD (dflt : Nat) (b : PB) :
    (b.slot dflt none).getD dflt = b.lastPool.getD dflt := by
  cases b with
  | nil => rfl
  | pool p r => rw [PB.slot, PB.slot_some_eq, PB.lastPool]; cases r.lastPool <;> rfl
  | batch t ws inner r => rw [PB.slot, PB.slot_some_eq]; rfl

theorem PB.build_eq (dflt : Nat) (b : PB) (ws : List Nat) :
    b.build dflt ws = ⟨none, b.lastPool.getD dflt, ws⟩ :: b.batches dflt (b.lastPool.getD dflt) := by
  rw [PB.build, PB.slot_getD]

theorem PB.lastPool_of_noPool {b : PB} (h : b.noPool = true) : b.lastPool = none := by
  induction b with
  | nil => rfl
  | pool p r => exact Bool.noConfusion h
  | batch t ws inner r _ ih => exact ih (Bool.and_eq_true_iff.1 h).2

theorem batches_noPool {dflt : Nat} {b : PB} (h : b.noPool = true) :
    ∀ d ∈ b.batches dflt dflt, d.pool = dflt := by
  induction b with
  | nil => exact fun _ hd => nomatch hd
  | pool p r => exact Bool.noConfusion h
  | batch t ws inner r ih1 ih2 =>
    obtain ⟨hi, hr⟩ := Bool.and_eq_true_iff.1 h
    intro d hd
    rw [PB.batches, PB.slot_getD, PB.lastPool_of_noPool hi] at hd
    rcases List.mem_cons.1 hd with rfl | hd
    · rfl
    · exact (List.mem_append.1 hd).elim (ih1 hi d) (ih2 hr d)

theorem direct_mem_batches {dflt f : Nat} {b : PB} {t : Nat} {ws : List Nat}
    (h : (t, ws) ∈ b.direct) : ⟨some t, f, ws⟩ ∈ b.batches dflt f := by
  induction b with
  | nil => nomatch h
  | pool p r ih => exact ih h
  | batch t' ws' inner r _ ih =>
    rw [PB.batches]
    rcases List.mem_cons.1 h with h | h
    · cases h; exact List.mem_cons_self
    · exact List.mem_cons_of_mem _ (List.mem_append_right _ (ih h))

theorem bumpNewest_zero (l : List Nat) : bumpNewest 0 l = l := by
  rw [bumpNewest, List.take_zero, List.drop_zero, List.map_nil, List.nil_append]

theorem bumpNewest_length (k : Nat) (l : List Nat) : (bumpNewest k l).length = l.length := by
  rw [bumpNewest, List.length_append, List.length_map, ← List.length_append, List.take_append_drop]

/-- `Data::inner` under the invariant "at most the job of the last dispatch is unfinished, and
exactly when `data` is `Data::Rx`": afterwards nothing is in flight. -/
theorem ASt.inner_eq {s : ASt} (h : s.flying = if s.rx then 1 else 0) :
    s.inner = ⟨false, 0, s.others⟩ := by
  obtain ⟨rx, flying, others⟩ := s
  cases rx with
  | true => cases (show flying = 1 from h); rfl
  | false => cases (show flying = 0 from h); rfl

/-- Any call sequence keeps that invariant, and since every `dispatch` first waits (on the
calling thread) for the job in flight, it records `0` other unfinished jobs and bumps nobody. -/
theorem ASt.run_spec {s : ASt} (h : s.flying = if s.rx then 1 else 0) (calls : List ACall) :
    (s.run calls).flying = (if (s.run calls).rx then 1 else 0) ∧
      (s.run calls).others = List.replicate (nDispatch calls) 0 ++ s.others := by
  induction calls generalizing s with
  | nil => exact ⟨h, rfl⟩
  | cons c cs ih =>
    have hi := ASt.inner_eq h
    have quiet := ih (s := s.inner) (by rw [hi]; rfl)
    rw [show s.inner.others = s.others by rw [hi]] at quiet
    cases c with
    | dispatch =>
      obtain ⟨h1, h2⟩ := ih (s := s.inner.spawn) (by rw [hi]; rfl)
      refine ⟨h1, h2.trans ?_⟩
      rw [hi, ASt.spawn, bumpNewest_zero, nDispatch, List.replicate_succ', List.append_assoc]
      rfl
    | wait | waitWithoutTl | world => exact quiet
    | running sent =>
      cases sent with
      | true => exact quiet
      | false => exact ih h

theorem asyncOthers_eq (calls : List ACall) :
    asyncOthers calls = List.replicate (nDispatch calls) 0 := by
  rw [asyncOthers, (ASt.run_spec (s := .init) rfl calls).2]
  exact (List.append_nil _).symm ▸ List.reverse_replicate ..

end Shred
