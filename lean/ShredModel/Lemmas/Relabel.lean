import ShredModel.Lemmas.Sim
import ShredModel.Model.Plan
import ShredModel.Lemmas.ListAux
/-!
# Renaming ids and boxed systems commutes with the builder's operations

`StagesBuilder::insert` compares ids only for equality (`find_conflict`'s dependency test,
`remove_ids`, the de-duplication of the dependency list) and looks at a cell of the executed
table only through its length (the `MAX_SYSTEMS_PER_GROUP` test). So for an injective `σ` on ids and
any `τ` on boxed systems, `insert` commutes with `relabel σ τ`, the map that renames the `ids` table by
`σ` and the executed table by `τ` (`relabel_insert`), and so does a whole registration sequence
(`runOpsI_eq`).

This is proved on the five tables of `StagesBuilder`, not on the zipped view: the single-step statements
are about any builder, with no `LockStep` to zip it by, and since `relabel` is a function of the builder
the proof is rewriting, operation by operation.
-/
namespace Shred

section
variable {α β : Type} [DecidableEq α] [DecidableEq β] {f : α → β} (hf : ∀ a b, f a = f b → a = b)
include hf

theorem inter_map_inj (i j : List α) : inter (i.map f) (j.map f) = inter i j :=
  inter_image hf (fun _ => List.mem_map) (fun _ => List.mem_map)

theorem dedup_map_inj (l : List α) : dedup (l.map f) = (dedup l).map f := by
  induction l with
  | nil => rfl
  | cons a l ih =>
    simp only [List.map_cons, dedup, mem_map_inj hf]
    split
    · exact ih
    · rw [List.map_cons, ih]

end

namespace StagesBuilder

variable {σ : Nat → Nat} (hσ : ∀ a b, σ a = σ b → a = b)
include hσ

theorem findConflictCols_map (idsS : List (List Nat)) (readsS writesS : List (List ResId)) (nr nw : List ResId)
    (dep : List Nat) :
    findConflictCols (idsS.map (List.map σ)) readsS writesS nr nw (dep.map σ) =
      findConflictCols idsS readsS writesS nr nw dep := by
  have hd : ∀ g, inter (dep.map σ) ((idsS.map (List.map σ)).getD g []) = inter dep (idsS.getD g []) := fun g => by
    rw [show (idsS.map (List.map σ)).getD g [] = _ from Table.getD_proj σ idsS g, inter_map_inj hσ]
  -- ids and dependencies enter only through lengths, emptiness and `inter`
  simp only [findConflictCols, List.length_map, List.isEmpty_map, hd]

theorem removeIdsCol_map (idsS : List (List Nat)) (dep : List Nat) :
    removeIdsCol (idsS.map (List.map σ)) (dep.map σ) = (removeIdsCol idsS dep).map σ := by
  have key : ∀ ids dep : List Nat, (ids.map σ).foldl (fun d id => d.erase id) (dep.map σ)
      = (ids.foldl (fun d id => d.erase id) dep).map σ := by
    intro ids
    induction ids with
    | nil => intro _; rfl
    | cons a ids ih => intro dep; rw [List.map_cons, List.foldl_cons, List.foldl_cons, erase_map_inj hσ, ih]
  unfold removeIdsCol
  rw [List.isEmpty_map, ← List.map_flatten, key]
  split <;> rfl

end StagesBuilder

def mapT (τ : Nat → SysTag) (t : Table (List Nat)) : Table (List SysTag) := t.map fun st => st.map fun g => g.map τ
def mapIds (σ : Nat → Nat) (t : Table (List Nat)) : Table (List Nat) := t.map fun st => st.map fun g => g.map σ

theorem mapT_eq (τ : Nat → SysTag) (t : Table (List Nat)) : mapT τ t = Table.proj (List.map τ) t := rfl
theorem mapIds_eq (σ : Nat → Nat) (t : Table (List Nat)) : mapIds σ t = Table.proj (List.map σ) t := rfl

theorem mapIds_id (t : Table (List Nat)) : mapIds id t = t := by
  rw [mapIds_eq, List.map_id_fun, Table.proj_id]

theorem mapT_id (t : Table (List Nat)) : mapT id t = t :=
  mapIds_id t

def StagesBuilder.relabel (σ : Nat → Nat) (τ : Nat → SysTag) (b : StagesBuilder) : StagesBuilder :=
  { b with ids := mapIds σ b.ids, stages := mapT τ b.stages }

namespace StagesBuilder

theorem eq_relabel_iff {σ : Nat → Nat} {τ : Nat → SysTag} {b b' : StagesBuilder} :
    b' = b.relabel σ τ ↔
      b'.ids = mapIds σ b.ids ∧ b'.stages = mapT τ b.stages ∧ b'.reads = b.reads ∧ b'.writes = b.writes ∧
        b'.runningTime = b.runningTime ∧ b'.barrier = b.barrier := by
  constructor
  · rintro rfl
    exact ⟨rfl, rfl, rfl, rfl, rfl, rfl⟩
  · cases b'
    rintro ⟨rfl, rfl, rfl, rfl, rfl, rfl⟩
    rfl

variable (σ : Nat → Nat) (τ : Nat → SysTag) (b : StagesBuilder)

theorem relabel_joinOk (s g t : Nat) : (b.relabel σ τ).joinOk s g t = b.joinOk s g t := by
  show joinOkCols ((Table.proj (List.map τ) b.stages).getD s []) _ g t = joinOkCols _ _ g t
  rw [Table.getD_proj, joinOkCols, joinOkCols,
    show ((b.stages.getD s []).map (List.map τ)).getD g [] = _ from Table.getD_proj τ _ g, List.length_map]
  rfl

theorem relabel_addStage : b.addStage.relabel σ τ = (b.relabel σ τ).addStage := by
  simp only [relabel, addStage, mapIds_eq, mapT_eq, Table.proj_addStage]

theorem relabel_addGroup (s : Nat) : (b.addGroup s).relabel σ τ = (b.relabel σ τ).addGroup s := by
  simp only [relabel, addGroup, mapIds_eq, mapT_eq, Table.proj_addGroup, List.map_nil]

theorem relabel_pushAll (s g id sys : Nat) (r w : List ResId) (t : Nat) :
    (b.pushAll s g id sys r w t).relabel σ τ = (b.relabel σ τ).pushAll s g (σ id) (τ sys) r w t := by
  simp only [relabel, pushAll, mapIds_eq, mapT_eq]
  rw [Table.proj_update (List.map σ) (· ++ [σ id]) (fun _ => List.map_append),
    Table.proj_update (List.map τ) (· ++ [τ sys]) (fun _ => List.map_append)]

theorem relabel_addBarrier : b.addBarrier.relabel σ τ = (b.relabel σ τ).addBarrier := by
  simp only [relabel, addBarrier, mapT_eq, Table.length_proj]

variable {σ} (hσ : ∀ a b, σ a = σ b → a = b)
include hσ

theorem relabel_findConflict (s : Nat) (nr nw : List ResId) (dep : List Nat) :
    (b.relabel σ τ).findConflict s nr nw (dep.map σ) = b.findConflict s nr nw dep := by
  show findConflictCols ((Table.proj (List.map σ) b.ids).getD s []) _ _ nr nw _ = _
  rw [Table.getD_proj, findConflictCols_map hσ]
  rfl

theorem relabel_removeIds (s : Nat) (dep : List Nat) :
    (b.relabel σ τ).removeIds s (dep.map σ) = (b.removeIds s dep).map σ := by
  show removeIdsCol ((Table.proj (List.map σ) b.ids).getD s []) _ = _
  rw [Table.getD_proj, removeIdsCol_map hσ]
  rfl

theorem relabel_scan (nr nw : List ResId) (t : Nat) (l : List Nat) (dep : List Nat) :
    (b.relabel σ τ).scan nr nw t l (dep.map σ) = b.scan nr nw t l dep := by
  induction l generalizing dep with
  | nil => rfl
  | cons s l ih => simp only [scan, relabel_findConflict τ b hσ, relabel_removeIds τ b hσ, relabel_joinOk, ih]

theorem relabel_prepDep (dep : List Nat) : (b.relabel σ τ).prepDep (dep.map σ) = (b.prepDep dep).map σ := by
  unfold prepDep
  rw [dedup_map_inj hσ]
  show List.foldl _ _ (List.range b.barrier) = _
  generalize dedup dep = d
  induction List.range b.barrier generalizing d with
  | nil => rfl
  | cons s l ih => rw [List.foldl_cons, List.foldl_cons, relabel_removeIds τ b hσ, ih]

theorem relabel_insertionTarget (nr nw : List ResId) (dep : List Nat) (t : Nat) :
    (b.relabel σ τ).insertionTarget nr nw (dep.map σ) t = b.insertionTarget nr nw dep t := by
  unfold insertionTarget
  rw [relabel_scan τ b hσ]
  simp only [relabel, mapT_eq, Table.length_proj]

theorem relabel_insert (dep : List Nat) (id : Nat) (tag : SysTag) (d : Decl) :
    (b.relabel σ τ).insert (dep.map σ) (σ id) (τ tag) d = (b.insert dep id tag d).relabel σ τ := by
  rw [insert_eq, insert_eq, relabel_prepDep τ b hσ, relabel_insertionTarget τ b hσ]
  cases b.insertionTarget (sortDedup d.reads) d.writes (b.prepDep dep) d.time with
  | stage s =>
    simp only [relabel_pushAll, relabel_addGroup]
    congr 1
    simp only [relabel, mapIds_eq, Table.getD_proj, List.length_map]
  | group s g => simp only [relabel_pushAll]
  | newStage =>
    simp only [relabel_pushAll, relabel_addGroup, relabel_addStage]
    simp only [relabel, mapT_eq, Table.length_proj]

end StagesBuilder

/-- registrations with arbitrary (injectively relabelled) ids and arbitrary tags: the `n`-th
successful registration carries id `σ n`, its dependency list is relabelled alike -/
def SOp.stepI (σ : Nat → Nat) (τ : Nat → SysTag) (st : StagesBuilder × Nat) : SOp → StagesBuilder × Nat
  | .insert dep d => (st.1.insert (dep.map σ) (σ st.2) (τ st.2) d, st.2 + 1)
  | .barrier => (st.1.addBarrier, st.2)

theorem foldl_stepI {σ : Nat → Nat} (hσ : ∀ a b, σ a = σ b → a = b) (τ : Nat → SysTag) (ops : List SOp)
    (st : StagesBuilder × Nat) :
    ops.foldl (SOp.stepI σ τ) (st.1.relabel σ τ, st.2) =
      ((ops.foldl SOp.step st).1.relabel σ τ, (ops.foldl SOp.step st).2) := by
  induction ops generalizing st with
  | nil => rfl
  | cons op ops ih =>
    rw [List.foldl_cons, List.foldl_cons, ← ih]
    cases op with
    | insert dep d => simp only [SOp.stepI, SOp.step, StagesBuilder.relabel_insert τ _ hσ]
    | barrier => simp only [SOp.stepI, SOp.step, StagesBuilder.relabel_addBarrier]

theorem runOpsI_eq {σ : Nat → Nat} (hσ : ∀ a b, σ a = σ b → a = b) (τ : Nat → SysTag) (ops : List SOp) :
    ops.foldl (SOp.stepI σ τ) ({}, 0) = ((runOps ops).1.relabel σ τ, (runOps ops).2) :=
  foldl_stepI hσ τ ops ({}, 0)

/-! ## Tags only (`σ = id`)

The harness tags the boxed systems with globally unique numbers; the theorems are stated with
tag = id. `TagRel τ b b'` is `b' = b.relabel id τ` read field by field, and `runOpsT_rel` is what
lets those theorems speak about the plans the driver builds (`Lemmas/NestedTop.lean`).
-/

structure TagRel (τ : Nat → SysTag) (b b' : StagesBuilder) : Prop where
  barrier : b'.barrier = b.barrier
  ids : b'.ids = b.ids
  reads : b'.reads = b.reads
  writes : b'.writes = b.writes
  runningTime : b'.runningTime = b.runningTime
  stages : b'.stages = mapT τ b.stages

theorem tagRel_iff {τ : Nat → SysTag} {b b' : StagesBuilder} : TagRel τ b b' ↔ b' = b.relabel id τ := by
  rw [StagesBuilder.eq_relabel_iff, mapIds_id]
  exact ⟨fun h => ⟨h.ids, h.stages, h.reads, h.writes, h.runningTime, h.barrier⟩,
    fun ⟨hi, hs, hr, hw, ht, hb⟩ =>
      { ids := hi, stages := hs, reads := hr, writes := hw, runningTime := ht, barrier := hb }⟩

namespace TagRel
variable {τ : Nat → SysTag} {b b' : StagesBuilder}

/-- one registration: same decision, same tables, executed table mapped -/
theorem insert_rel (h : TagRel τ b b') (dep : List SysId) (id : SysId) (d : Decl) :
    TagRel τ (b.insert dep id id d) (b'.insert dep id (τ id) d) := by
  rw [tagRel_iff] at h ⊢
  have := StagesBuilder.relabel_insert (σ := _root_.id) τ b (fun _ _ e => e) dep id id d
  rwa [List.map_id, ← h] at this

end TagRel

/-- registrations with arbitrary tags: the `n`-th registered system is tagged `τ n` -/
def SOp.stepT (τ : Nat → SysTag) (st : StagesBuilder × Nat) : SOp → StagesBuilder × Nat
  | .insert dep d => (st.1.insert dep st.2 (τ st.2) d, st.2 + 1)
  | .barrier => (st.1.addBarrier, st.2)

def runOpsT (τ : Nat → SysTag) (ops : List SOp) : StagesBuilder × Nat := ops.foldl (SOp.stepT τ) ({}, 0)

theorem SOp.stepT_eq (τ : Nat → SysTag) : SOp.stepT τ = SOp.stepI id τ := by
  funext st op
  cases op <;> simp only [stepT, stepI, List.map_id, id]

/-- **the tagged builder is the id builder with its executed table mapped** — for every
registration sequence -/
theorem runOpsT_rel (τ : Nat → SysTag) (ops : List SOp) :
    TagRel τ (runOps ops).1 (runOpsT τ ops).1 ∧ (runOpsT τ ops).2 = (runOps ops).2 := by
  rw [runOpsT, SOp.stepT_eq, runOpsI_eq (σ := id) (fun _ _ e => e)]
  exact ⟨tagRel_iff.mpr rfl, rfl⟩

/-! ## Ids only (`τ = id`)

`DispatcherBuilder::add` draws the id of a system from a counter that also advances on the
registrations it rejects, so the ids `StagesBuilder::insert` sees are increasing but not
consecutive, while the theorems are stated for ids `0, 1, 2, …`. `IdRel σ b b'` is
`b' = b.relabel σ id` read field by field; `Lemmas/AddGlue.lean` finds the `σ` of a builder that
went through rejected registrations.
-/

structure IdRel (σ : Nat → Nat) (b b' : StagesBuilder) : Prop where
  barrier : b'.barrier = b.barrier
  ids : b'.ids = mapIds σ b.ids
  reads : b'.reads = b.reads
  writes : b'.writes = b.writes
  runningTime : b'.runningTime = b.runningTime
  stages : b'.stages = b.stages

theorem idRel_iff {σ : Nat → Nat} {b b' : StagesBuilder} : IdRel σ b b' ↔ b' = b.relabel σ id := by
  rw [StagesBuilder.eq_relabel_iff, mapT_id]
  exact ⟨fun h => ⟨h.ids, h.stages, h.reads, h.writes, h.runningTime, h.barrier⟩,
    fun ⟨hi, hs, hr, hw, ht, hb⟩ =>
      { ids := hi, stages := hs, reads := hr, writes := hw, runningTime := ht, barrier := hb }⟩

namespace IdRel
variable {σ : Nat → Nat} (hσ : ∀ a b, σ a = σ b → a = b) {b b' : StagesBuilder}
include hσ

/-- one registration under a relabelling of ids: same decision, `ids` table mapped -/
theorem insert_rel (h : IdRel σ b b') (dep : List Nat) (id : Nat) (tag : SysTag) (d : Decl) :
    IdRel σ (b.insert dep id tag d) (b'.insert (dep.map σ) (σ id) tag d) := by
  rw [idRel_iff] at h ⊢
  rw [h]
  exact StagesBuilder.relabel_insert _root_.id b hσ dep id tag d

end IdRel

end Shred
