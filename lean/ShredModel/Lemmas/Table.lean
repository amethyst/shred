import ShredModel.Model.Stage
import ShredModel.Lemmas.ListAux
/-!
# Access lists and `Table`s

What membership in `inter` / `dedup` / `sortDedup` means, and `conflictsD`, the relation between two
declarations that `hit` decides. A `Table` (`Model/Stage.lean`) is determined by its `shape` and its cells
(`Table.ext`), so each operation is described by what `get?` and `shape` see after it. The correspondence between
the builder's five tables and their zipped view (`Lemmas/Sim.lean`) does not go through cells: it rests on
`Table.proj`, the cell-wise image of a table, which commutes with the operations.
-/
namespace Shred

theorem inter_iff {α} [DecidableEq α] {i j : List α} : inter i j = true ↔ ∃ x, x ∈ i ∧ x ∈ j := by
  simp [inter, List.any_eq_true]

theorem inter_nil_left {α} [DecidableEq α] (j : List α) : inter ([] : List α) j = false := rfl

/-- `check_intersection` only tests equality: it cannot tell two lists from their images (as sets) under an
injective map -/
theorem inter_image {α β : Type} [DecidableEq α] [DecidableEq β] {f : α → β} (hf : ∀ a b, f a = f b → a = b)
    {i j : List α} {i' j' : List β} (hi : ∀ x, x ∈ i' ↔ ∃ y, y ∈ i ∧ f y = x)
    (hj : ∀ x, x ∈ j' ↔ ∃ y, y ∈ j ∧ f y = x) : inter i' j' = inter i j := by
  rw [Bool.eq_iff_iff, inter_iff, inter_iff]
  constructor
  · rintro ⟨x, hx, hy⟩
    obtain ⟨a, ha, rfl⟩ := (hi x).mp hx
    obtain ⟨c, hc, he⟩ := (hj _).mp hy
    exact ⟨a, ha, hf c a he ▸ hc⟩
  · rintro ⟨x, hx, hy⟩
    exact ⟨f x, (hi _).mpr ⟨x, hx, rfl⟩, (hj _).mpr ⟨x, hy, rfl⟩⟩

theorem mem_dedup {α} [DecidableEq α] {l : List α} {x : α} : x ∈ dedup l ↔ x ∈ l := by
  induction l with
  | nil => simp [dedup]
  | cons y ys ih =>
    simp only [dedup]
    split
    · rename_i hy
      rw [ih]
      constructor
      · exact fun h => List.mem_cons_of_mem _ h
      · intro h; rcases List.mem_cons.mp h with rfl | h
        · exact hy
        · exact h
    · simp [ih]

theorem nodup_dedup {α} [DecidableEq α] (l : List α) : (dedup l).Nodup := by
  induction l with
  | nil => simp [dedup]
  | cons y ys ih =>
    simp only [dedup]
    split
    · exact ih
    · rename_i hy
      exact List.nodup_cons.mpr ⟨fun h => hy (mem_dedup.mp h), ih⟩

theorem mem_insertSorted {x y : ResId} {l : List ResId} : y ∈ insertSorted x l ↔ y = x ∨ y ∈ l := by
  induction l with
  | nil => simp [insertSorted]
  | cons z zs ih =>
    simp only [insertSorted]
    split
    · exact List.mem_cons
    · rw [List.mem_cons, ih, List.mem_cons]; exact or_left_comm

theorem mem_sortDedup {l : List ResId} {x : ResId} : x ∈ sortDedup l ↔ x ∈ l := by
  unfold sortDedup
  rw [mem_dedup]
  induction l with
  | nil => simp
  | cons y ys ih => simp [List.foldr, mem_insertSorted, ih]

theorem hit_iff (nr nw gr gw : List ResId) :
    hit nr nw gr gw = true ↔
      (∃ x, x ∈ nw ∧ (x ∈ gw ∨ x ∈ gr)) ∨ (∃ x, x ∈ nr ∧ x ∈ gw) := by
  simp [hit, inter_iff, List.mem_append]

/-- what `hit` tests, stated on the two declarations rather than on the accumulators -/
def conflictsD (a b : Decl) : Prop :=
  (∃ x, x ∈ a.writes ∧ (x ∈ b.writes ∨ x ∈ b.reads)) ∨ (∃ x, x ∈ a.reads ∧ x ∈ b.writes)

theorem conflictsD_symm {a b : Decl} : conflictsD a b → conflictsD b a := by
  rintro (⟨x, hx, hy | hy⟩ | ⟨x, hx, hy⟩)
  · exact Or.inl ⟨x, hy, Or.inl hx⟩
  · exact Or.inr ⟨x, hy, hx⟩
  · exact Or.inl ⟨x, hy, Or.inr hx⟩

/-- the compatibility relation the trace theorems are instantiated with (`WF (CompatD D)`): the declarations of
`x` and `y` do not conflict -/
def CompatD (D : Nat → Decl) (x y : Nat) : Prop := ¬ conflictsD (D x) (D y)

theorem compatD_symm (D : Nat → Decl) (x y : Nat) (h : CompatD D x y) : CompatD D y x :=
  fun hc => h (conflictsD_symm hc)

namespace Table
variable {α β : Type}

theorem get?_eq_bind (t : Table α) (s g : Nat) : t.get? s g = t[s]?.bind (·[g]?) := by
  unfold get?
  cases t[s]? <;> rfl

theorem get?_eq_some {t : Table α} {s g : Nat} {a : α} :
    t.get? s g = some a ↔ ∃ st, t[s]? = some st ∧ st[g]? = some a := by
  rw [get?_eq_bind, Option.bind_eq_some_iff]

@[simp] theorem shape_length (t : Table α) : t.shape.length = t.length := by simp [shape]

theorem shape_getElem? (t : Table α) (s : Nat) : t.shape[s]? = (t[s]?).map List.length := by
  simp [shape]

theorem shape_addStage (t : Table α) : (t.addStage).shape = t.shape ++ [0] := by
  simp [shape, addStage]

theorem get?_modify (t : Table α) (s : Nat) (F : List α → List α) (s' g' : Nat) :
    get? (t.modify s F) s' g' = if s = s' then (t[s]?.bind fun st => (F st)[g']?) else t.get? s' g' := by
  rw [get?_eq_bind]
  by_cases hs : s = s'
  · subst s'
    rw [if_pos rfl, List.getElem?_modify_eq]
    cases t[s]? <;> rfl
  · rw [if_neg hs, List.getElem?_modify_ne F t hs, get?_eq_bind]

theorem shape_update (t : Table α) (s g : Nat) (f : α → α) : (t.update s g f).shape = t.shape :=
  (map_modify List.length _ id (fun _ => List.length_modify ..) t s).trans (List.modify_id _ _)

theorem shape_addGroup (t : Table α) (s : Nat) (e : α) :
    (t.addGroup s e).shape = t.shape.modify s (· + 1) :=
  map_modify List.length (· ++ [e]) (· + 1) (fun _ => List.length_append) t s

theorem get?_update (t : Table α) (s g : Nat) (f : α → α) (s' g' : Nat) :
    (t.update s g f).get? s' g' =
      if s' = s ∧ g' = g then (t.get? s g).map f else t.get? s' g' := by
  rw [update, get?_modify]
  by_cases hs : s = s'
  · subst s'
    rw [if_pos rfl, get?_eq_bind, get?_eq_bind]
    cases t[s]? with
    | none => split <;> rfl
    | some st =>
      rw [Option.bind_some, Option.bind_some, Option.bind_some, List.getElem?_modify]
      by_cases hg : g = g'
      · subst g'
        rw [if_pos ⟨rfl, rfl⟩]
        simp only [if_true]
        rfl
      · rw [if_neg fun h => hg h.2.symm]
        simp only [hg, if_false]
        exact Option.map_id' ..
  · rw [if_neg hs, if_neg fun h => hs h.1.symm]

theorem get?_addGroup (t : Table α) (s : Nat) (e : α) (s' g' : Nat) :
    (t.addGroup s e).get? s' g' =
      if s' = s ∧ (∃ st, t[s]? = some st ∧ g' = st.length) then some e else t.get? s' g' := by
  rw [addGroup, get?_modify]
  by_cases hs : s = s'
  · subst s'
    rw [get?_eq_bind]
    cases hst : t[s]? with
    | none => simp
    | some st =>
      have hex : (∃ st', some st = some st' ∧ g' = st'.length) ↔ g' = st.length :=
        ⟨fun ⟨_, h1, h2⟩ => by cases h1; exact h2, fun h => ⟨st, rfl, h⟩⟩
      simp only [if_true, true_and, hex, Option.bind_some]
      exact getElem?_concat st e g'
  · rw [if_neg hs, if_neg fun h => hs h.1.symm]

theorem get?_addStage (t : Table α) (s g : Nat) : (t.addStage).get? s g = t.get? s g := by
  rw [get?_eq_bind, get?_eq_bind, addStage, getElem?_concat]
  split
  next h =>
    -- the new stage is empty, and `t` has no stage there
    rw [h, List.getElem?_eq_none (Nat.le_refl _)]
    rfl
  next => rfl

theorem addGroup_update (t : Table α) (s : Nat) (e : α) (f : α → α) :
    (t.addGroup s e).update s (t.getD s []).length f = t.addGroup s (f e) := by
  unfold addGroup update
  apply List.ext_getElem?
  intro i
  by_cases hi : s = i
  · subst hi
    cases h : t[s]? with
    | none => rw [List.getElem?_modify_eq, List.getElem?_modify_eq, List.getElem?_modify_eq, h]; rfl
    | some st =>
      have hd : t.getD s [] = st := by rw [List.getD, h]; rfl
      rw [getElem?_modify_of_some (getElem?_modify_of_some h), getElem?_modify_of_some h, hd,
        modify_append_last]
  · rw [List.getElem?_modify_ne _ _ hi, List.getElem?_modify_ne _ _ hi, List.getElem?_modify_ne _ _ hi]

theorem addStage_addGroup (t : Table α) (e : α) : (t.addStage).addGroup t.length e = t ++ [[e]] :=
  modify_append_last t [] (· ++ [e])

theorem addStage_addGroup_update (t : Table α) (e : α) (f : α → α) :
    ((t.addStage).addGroup t.length e).update t.length 0 f = t ++ [[f e]] := by
  have h := addGroup_update t.addStage t.length e f
  have h0 : (t.addStage.getD t.length []).length = 0 := by
    simp only [addStage, List.getD, List.getElem?_append_right (Nat.le_refl _), Nat.sub_self,
      List.getElem?_cons_zero, Option.getD_some, List.length_nil]
  rw [h0] at h
  rw [h, addStage_addGroup]

theorem getD_of_get? {t : Table α} {s g : Nat} {a d : α} (h : t.get? s g = some a) :
    (t.getD s []).getD g d = a := by
  obtain ⟨st, h1, h2⟩ := get?_eq_some.mp h
  simp [List.getD, h1, h2]

theorem get?_lt {t : Table α} {s g : Nat} {a : α} (h : t.get? s g = some a) :
    s < t.length ∧ g < (t.getD s []).length := by
  obtain ⟨st, h1, h2⟩ := get?_eq_some.mp h
  refine ⟨(List.getElem?_eq_some_iff.mp h1).1, ?_⟩
  simp [List.getD, h1, (List.getElem?_eq_some_iff.mp h2).1]

theorem get?_isSome_iff {t : Table α} {s g : Nat} :
    (t.get? s g).isSome ↔ ∃ n, t.shape[s]? = some n ∧ g < n := by
  rw [get?_eq_bind, shape_getElem?]
  cases h : t[s]? with
  | none => simp
  | some st =>
    simp only [Option.map_some, Option.some.injEq, exists_eq_left']
    constructor
    · intro hs
      cases hg : st[g]? with
      | none => simp [hg] at hs
      | some a => exact (List.getElem?_eq_some_iff.mp hg).1
    · intro hlt
      simp [List.getElem?_eq_getElem hlt]

theorem ext {t u : Table α} (hshape : t.shape = u.shape) (hcell : ∀ s g, t.get? s g = u.get? s g) :
    t = u := by
  apply List.ext_getElem?
  intro s
  have hs : (t[s]?).map List.length = (u[s]?).map List.length := by
    rw [← shape_getElem?, ← shape_getElem?, hshape]
  have hc := hcell s
  simp only [get?_eq_bind] at hc
  revert hs hc
  cases t[s]? <;> cases u[s]? <;> intro hs hc
  · rfl
  · cases hs
  · cases hs
  · exact congrArg some (List.ext_getElem? hc)

theorem getD_getElem? (t : Table α) (s g : Nat) : (t.getD s [])[g]? = t.get? s g := by
  rw [get?_eq_bind, List.getD]
  cases t[s]? <;> rfl

theorem get?_none_of_shape {t : Table α} {u : Table β} (h : t.shape = u.shape) {s g : Nat}
    (hu : u.get? s g = none) : t.get? s g = none := by
  rw [← Option.not_isSome_iff_eq_none, get?_isSome_iff, h, ← get?_isSome_iff, hu]
  exact Bool.false_ne_true

def proj (f : α → β) (t : Table α) : Table β := t.map (·.map f)

theorem length_proj (f : α → β) (t : Table α) : (proj f t).length = t.length := by
  simp only [proj, List.length_map]

theorem proj_addStage (f : α → β) (t : Table α) : proj f t.addStage = (proj f t).addStage := by
  simp only [proj, addStage, List.map_append, List.map_cons, List.map_nil]

theorem proj_addGroup (f : α → β) (t : Table α) (s : Nat) (e : α) :
    proj f (t.addGroup s e) = (proj f t).addGroup s (f e) := by
  unfold proj addGroup
  exact map_modify _ _ _ (fun a => by simp only [List.map_append, List.map_cons, List.map_nil]) _ _

theorem proj_update (f : α → β) {t : Table α} {s g : Nat} {u : α → α} (u' : β → β)
    (h : ∀ a, f (u a) = u' (f a)) : proj f (t.update s g u) = (proj f t).update s g u' := by
  unfold proj update
  exact map_modify _ _ _ (fun st => map_modify f u u' h st g) _ _

theorem proj_id (t : Table α) : proj id t = t := by
  simp only [proj, List.map_id_fun, id_eq, List.map_id_fun']

/-- an entry of a projected table is the image of an entry of the table -/
theorem mem_proj {f : α → β} {t : Table α} {row : List β} (hrow : row ∈ proj f t)
    {b : β} (hb : b ∈ row) : ∃ r, r ∈ t ∧ ∃ a, a ∈ r ∧ f a = b := by
  obtain ⟨r, hr, rfl⟩ := List.mem_map.mp hrow
  obtain ⟨a, ha, rfl⟩ := List.mem_map.mp hb
  exact ⟨r, hr, a, ha, rfl⟩

theorem getD_proj (f : α → β) (t : Table α) (s : Nat) : (proj f t).getD s [] = (t.getD s []).map f := by
  simp only [proj, List.getD, List.getElem?_map]
  cases t[s]? <;> rfl

theorem shape_proj (f : α → β) (t : Table α) : (proj f t).shape = t.shape := by
  simp only [proj, shape, List.map_map]
  apply List.map_congr_left
  intro st _
  simp only [Function.comp, List.length_map]

theorem get?_proj (f : α → β) (t : Table α) (s g : Nat) : (proj f t).get? s g = (t.get? s g).map f := by
  rw [get?_eq_bind, get?_eq_bind, proj, List.getElem?_map]
  cases t[s]? with
  | none => rfl
  | some st => exact List.getElem?_map ..

theorem eq_proj_of_cells {f : α → β} {t : Table β} {zt : Table α} (hshape : t.shape = zt.shape)
    (h : ∀ s g, t.get? s g = (zt.get? s g).map f) : t = proj f zt := by
  apply Table.ext
  · rw [hshape, shape_proj]
  · intro s g
    rw [h, get?_proj]

end Table
end Shred
