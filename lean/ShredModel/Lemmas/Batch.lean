import ShredModel.Lemmas.Nested
import ShredModel.Model.Builder
/-!
# C07, the accessor half: a batch declares exactly the union

For an inner builder reached by any registration sequence, `fetch_all_reads` /
`fetch_all_writes` contain exactly what the systems placed in it declare; `batchDecl` adds
the controller's declared data. Hence the batch's declaration covers (`Sub`) the controller's
data and every inner system, and a conflict with anything inside is a conflict with the batch
(`conflict_lifts`). Only the `reads` and `writes` tables of the inner builder enter the proofs, and
`sub_batchDecl_sys` assumes nothing else of it: that is what lets it speak of the tagged builder the
driver runs (`sub_batchDecl`, `Lemmas/NestedTop.lean`).
-/
namespace Shred

/-- what a column of accumulators collects, flattened: exactly what the placed systems declare
(`acc` / `decl`: the reads, or the writes) -/
theorem mem_col {D Dep g z} (h : GoodZ D Dep g z) (acc : ZGroup → List ResId) (decl : Decl → List ResId)
    (hacc : ∀ st, st ∈ z.stages → ∀ gr, gr ∈ st → ∀ x, x ∈ acc gr ↔ ∃ s, s ∈ gr.sys ∧ x ∈ decl (D s))
    (x : ResId) :
    x ∈ (z.stages.map fun st => st.map acc).flatten.flatten ↔ ∃ s, s < g.n ∧ x ∈ decl (D s) := by
  have hacc' : ∀ gr, gr ∈ z.stages.flatten → (x ∈ acc gr ↔ ∃ s, s ∈ gr.sys ∧ x ∈ decl (D s)) := fun gr hgr =>
    have ⟨st, hst, hgr⟩ := List.mem_flatten.mp hgr
    hacc st hst gr hgr x
  rw [← List.map_flatten, ← List.flatMap_def, List.mem_flatMap]
  constructor
  · rintro ⟨gr, hgr, hx⟩
    obtain ⟨s, hs, hxs⟩ := (hacc' gr hgr).mp hx
    exact ⟨s, (h.registered_iff s).mpr ⟨gr, hgr, hs⟩, hxs⟩
  · rintro ⟨s, hs, hxs⟩
    obtain ⟨gr, hgr, hsg⟩ := (h.registered_iff s).mp hs
    exact ⟨gr, hgr, (hacc' gr hgr).mpr ⟨s, hsg, hxs⟩⟩

/-- what `fetch_all_reads` returns: exactly the declared reads of the placed systems -/
theorem mem_fetchAllReads {D Dep g z} (h : GoodZ D Dep g z) {b : StagesBuilder} (hr : b.reads = g.b.reads)
    (x : ResId) : x ∈ b.fetchAllReads ↔ ∃ s, s < g.n ∧ x ∈ (D s).reads := by
  rw [StagesBuilder.fetchAllReads, mem_sortDedup, hr, reads_eq_of_zips h.zips]
  exact mem_col h (·.reads) (·.reads) (fun st hst gr hgr => ((h.ok st hst).accum gr hgr).reads) x

theorem mem_fetchAllWrites {D Dep g z} (h : GoodZ D Dep g z) {b : StagesBuilder} (hw : b.writes = g.b.writes)
    (x : ResId) : x ∈ b.fetchAllWrites ↔ ∃ s, s < g.n ∧ x ∈ (D s).writes := by
  rw [StagesBuilder.fetchAllWrites, mem_sortDedup, hw, writes_eq_of_zips h.zips]
  exact mem_col h (·.writes) (·.writes) (fun st hst gr hgr => ((h.ok st hst).accum gr hgr).writes) x

theorem mem_batchDecl_reads {inner : DispatcherBuilder} {ctl : Decl} {x : ResId} :
    x ∈ (DispatcherBuilder.batchDecl inner ctl).reads ↔ x ∈ inner.stagesBuilder.fetchAllReads ∨ x ∈ ctl.reads := by
  rw [DispatcherBuilder.batchDecl, mem_sortDedup, List.mem_append]

theorem mem_batchDecl_writes {inner : DispatcherBuilder} {ctl : Decl} {x : ResId} :
    x ∈ (DispatcherBuilder.batchDecl inner ctl).writes ↔ x ∈ inner.stagesBuilder.fetchAllWrites ∨ x ∈ ctl.writes := by
  rw [DispatcherBuilder.batchDecl, mem_sortDedup, List.mem_append]

/-- **C07, the accessor** (DESIGN.md §5 calls the two directions `batch_accessor_covers` and
`batch_accessor_tight`; `batchDecl_writes` is the same for writes). The accessor `add_batch`
computes contains exactly the controller's declared data and what the systems inside declare. -/
theorem batchDecl_reads {D Dep g z} (h : GoodZ D Dep g z) (inner : DispatcherBuilder)
    (hinner : inner.stagesBuilder = g.b) (ctl : Decl) (x : ResId) :
    x ∈ (DispatcherBuilder.batchDecl inner ctl).reads ↔ x ∈ ctl.reads ∨ ∃ s, s < g.n ∧ x ∈ (D s).reads := by
  rw [mem_batchDecl_reads, mem_fetchAllReads h (congrArg _ hinner)]
  exact Or.comm

theorem batchDecl_writes {D Dep g z} (h : GoodZ D Dep g z) (inner : DispatcherBuilder)
    (hinner : inner.stagesBuilder = g.b) (ctl : Decl) (x : ResId) :
    x ∈ (DispatcherBuilder.batchDecl inner ctl).writes ↔ x ∈ ctl.writes ∨ ∃ s, s < g.n ∧ x ∈ (D s).writes := by
  rw [mem_batchDecl_writes, mem_fetchAllWrites h (congrArg _ hinner)]
  exact Or.comm

theorem sub_batchDecl_ctl (inner : DispatcherBuilder) (ctl : Decl) : Sub ctl (DispatcherBuilder.batchDecl inner ctl) :=
  ⟨fun _ hx => mem_batchDecl_reads.mpr (.inr hx), fun _ hx => mem_batchDecl_writes.mpr (.inr hx)⟩

theorem sub_batchDecl_sys {D Dep g} (h : Good D Dep g) (inner : DispatcherBuilder)
    (hr : inner.stagesBuilder.reads = g.b.reads) (hw : inner.stagesBuilder.writes = g.b.writes) (ctl : Decl)
    {s : Nat} (hs : s < g.n) : Sub (D s) (DispatcherBuilder.batchDecl inner ctl) :=
  have ⟨_, h⟩ := h
  ⟨fun x hx => mem_batchDecl_reads.mpr (.inl ((mem_fetchAllReads h hr x).mpr ⟨s, hs, hx⟩)),
   fun x hx => mem_batchDecl_writes.mpr (.inl ((mem_fetchAllWrites h hw x).mpr ⟨s, hs, hx⟩))⟩

/-- Whoever conflicts with a system inside the batch, or with the
controller's data, conflicts with the batch as the outer scheduler sees it. -/
theorem conflict_lifts {D Dep g z} (h : GoodZ D Dep g z) (inner : DispatcherBuilder)
    (hinner : inner.stagesBuilder = g.b) (ctl : Decl) (a : Decl) (s : Nat) (hs : s < g.n)
    (hc : conflictsD a (D s)) : conflictsD a (DispatcherBuilder.batchDecl inner ctl) :=
  conflictsD_mono (Sub.refl a) (sub_batchDecl_sys ⟨z, h⟩ inner (congrArg _ hinner) (congrArg _ hinner) ctl hs) hc

#print axioms conflict_lifts
end Shred
