import ShredModel.Lemmas.PlanTask
/-!
# Scenarios: what is known about a registration sequence

Any list of `StagesBuilder` operations whose dependency lists name earlier registrations (`Consistent`), any
list of thread-local systems. Running the operations (`GState`: the builder and the number of registrations; `final`) gives a state that has a zipped view with all invariants (`Good`, `GoodZ`, `good_run`, all in
`Lemmas/Reach.lean`; the invariants themselves in `Lemmas/ZipMore.lean`, the zipped view and `Zips` in
`Lemmas/Zip.lean` and `Lemmas/Sim.lean`). The theorems below read those invariants off for the executed table and the
task tree built from it, in the form the flat `Scenario.Cxx` statements use.
-/
namespace Shred

structure Scenario where
  ops : List SOp
  D : Nat → Decl
  Dep : Nat → List Nat
  consistent : Consistent D Dep 0 ops
  tl : List SysTag
  tl_nodup : tl.Nodup
  /-- a staged system's tag is its registration number here (`GState.step` inserts `g.n` under `g.n`), so
  the thread-local tags lie above; the driver's free choice of tags comes back through `Scenario.level` -/
  tl_fresh : ∀ t, t ∈ tl → (ops.foldl GState.step {}).n ≤ t

namespace Scenario
variable (sc : Scenario)

def final : GState := sc.ops.foldl GState.step {}
def plan : Task SysTag := dispatchTask sc.final.b.stages sc.tl
def planSeq : Task SysTag := dispatchSeqTask sc.final.b.stages sc.tl

theorem good : Good sc.D sc.Dep sc.final := good_run sc.ops sc.consistent

theorem count_stages (x : SysTag) :
    sc.final.b.stages.flatten.flatten.count x = if x < sc.final.n then 1 else 0 := by
  obtain ⟨z, hz⟩ := sc.good; exact hz.count_stages x

theorem mem_stages (x : SysTag) : x ∈ sc.final.b.stages.flatten.flatten ↔ x < sc.final.n := by
  obtain ⟨z, hz⟩ := sc.good; exact hz.mem_stages x

theorem iso : IsoTable sc.D sc.final.b.stages := by
  obtain ⟨z, hz⟩ := sc.good; exact isoTable_of_good hz

/-- Every entry of a column of the builder's tables (`hcol`: one of the `_eq_of_zips` equations) is
that column of a zipped group, which satisfies `GroupFit` (`5` is `maxSystemsPerGroup`, as in `GoodZ.fit`). -/
theorem fit_of_mem {α} {col : ZGroup → α} {T : Table α}
    (hcol : ∀ z, Zips sc.final.b z → T = z.stages.map fun st => st.map col)
    {row : List α} (hrow : row ∈ T) {a : α} (ha : a ∈ row) : ∃ g, GroupFit sc.D 5 g ∧ col g = a := by
  obtain ⟨z, hz⟩ := sc.good
  rw [hcol z hz.zips] at hrow
  obtain ⟨st, hst, g, hg, rfl⟩ := Table.mem_proj hrow ha
  exact ⟨g, hz.fit st hst g hg, rfl⟩

theorem tags : (sc.final.b.stages.flatten.flatten ++ sc.tl).Nodup := by
  obtain ⟨z, hz⟩ := sc.good; exact hz.nodup_tags sc.tl_nodup sc.tl_fresh

/-- **C02 on the table**: a dependency is laid out before its dependent -/
theorem ordered_of_dep {A B : Nat} (hB : B < sc.final.n) (hA : A ∈ sc.Dep B) :
    TOrdered sc.final.b.stages A B := by
  obtain ⟨z, hz⟩ := sc.good; exact tOrdered_of_good hz (hz.deps B A hB hA)

/-- **C03 on the table**: what was registered before a barrier (`k` registrations so far) is
laid out in an earlier stage than what was registered after it -/
theorem ordered_of_barrier {k : Nat} (hk : k ∈ sc.final.bars) {x y : Nat} (hx : x < k) (hy : k ≤ y)
    (hyn : y < sc.final.n) : TOrdered sc.final.b.stages x y := by
  obtain ⟨z, hz⟩ := sc.good
  obtain ⟨sx, hsx⟩ := hz.placed (Nat.lt_of_lt_of_le hx (hz.bars_le k hk))
  obtain ⟨sy, hsy⟩ := hz.placed hyn
  exact tOrdered_of_good hz (.inl ⟨sx, sy, hz.sep k hk x y hx hy hyn sx sy hsx hsy, hsx, hsy⟩)

theorem plan_nodup : sc.plan.sys.Nodup :=
  let ⟨_, hz⟩ := sc.good; nodup_dispatchTask hz _ sc.tl_nodup sc.tl_fresh

theorem mem_plan_sys (x : SysTag) : x ∈ sc.plan.sys ↔ x < sc.final.n ∨ x ∈ sc.tl := by
  rw [plan, sys_dispatchTask, List.mem_append, sc.mem_stages x]

theorem wf_plan : WF (CompatD sc.D) sc.plan :=
  let ⟨_, hz⟩ := sc.good; wf_dispatchTask hz _

/-- `dispatch_par` alone (what the async dispatcher's job runs): the registered systems, once each -/
theorem mem_stagesTask_sys (x : SysTag) : x ∈ (stagesTask sc.final.b.stages).sys ↔ x < sc.final.n := by
  rw [sys_stagesTask, sc.mem_stages x]

theorem stagesTask_nodup : (stagesTask sc.final.b.stages).sys.Nodup :=
  sys_stagesTask _ ▸ (List.nodup_append.mp sc.tags).1

def StageOf (s : Nat) (x : SysTag) : Prop :=
  ∃ st g, sc.final.b.stages[s]? = some st ∧ g ∈ st ∧ x ∈ g

end Scenario
end Shred
