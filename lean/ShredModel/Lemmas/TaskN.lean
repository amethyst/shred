import ShredModel.Lemmas.Exec
import ShredModel.Lemmas.ListAux
/-!
# n-ary `seq` and `par`

What `sys`, `seqTrace`, `WF`, `NoScope`, `NoPar`, `Before` and the traces look like for `seqN` and
`parN`. The `sys` and `seqTrace` equations are about any list of tasks; everything else (and `sys`
once more) is stated over a mapped list `l.map f`, which is how every plan is built.
-/
namespace Shred
variable {ι : Type}
open Shred.Task

theorem sys_seqN (ts : List (Task ι)) : (seqN ts).sys = ts.flatMap Task.sys := by
  induction ts with
  | nil => rfl
  | cons t ts ih => simp [seqN, Task.sys, ih]

theorem sys_parN (ts : List (Task ι)) : (parN ts).sys = ts.flatMap Task.sys := by
  induction ts with
  | nil => rfl
  | cons t ts ih => simp [parN, Task.sys, ih]

theorem sys_seqN_map {α} (f : α → Task ι) (l : List α) :
    (seqN (l.map f)).sys = l.flatMap fun a => (f a).sys := by
  rw [sys_seqN, List.flatMap_map]

theorem sys_parN_map {α} (f : α → Task ι) (l : List α) :
    (parN (l.map f)).sys = l.flatMap fun a => (f a).sys := by
  rw [sys_parN, List.flatMap_map]

theorem seqTrace_seqN (ts : List (Task ι)) : (seqN ts).seqTrace = ts.flatMap Task.seqTrace := by
  induction ts with
  | nil => rfl
  | cons t ts ih => simp [seqN, Task.seqTrace, ih]

theorem seqTrace_parN (ts : List (Task ι)) : (parN ts).seqTrace = ts.flatMap Task.seqTrace := by
  induction ts with
  | nil => rfl
  | cons t ts ih => simp [parN, Task.seqTrace, ih]

theorem wf_seqN_map {α} {C : ι → ι → Prop} {f : α → Task ι} {l : List α} (h : ∀ a, a ∈ l → WF C (f a)) :
    WF C (seqN (l.map f)) := by
  induction l with
  | nil => trivial
  | cons a l ih => exact ⟨h a (by simp), ih fun b hb => h b (by simp [hb])⟩

theorem wf_parN_map {α} {C : ι → ι → Prop} {f : α → Task ι} {l : List α} (h : ∀ a, a ∈ l → WF C (f a))
    (hp : l.Pairwise fun a b => ∀ x, x ∈ (f a).sys → ∀ y, y ∈ (f b).sys → C x y) : WF C (parN (l.map f)) := by
  induction l with
  | nil => trivial
  | cons a l ih =>
    obtain ⟨hhead, htail⟩ := List.pairwise_cons.mp hp
    refine ⟨?_, h a (by simp), ih (fun b hb => h b (by simp [hb])) htail⟩
    intro x hx y hy
    rw [sys_parN_map] at hy
    obtain ⟨b, hb, hyb⟩ := List.mem_flatMap.mp hy
    exact hhead b hb x hx y hyb

theorem noScope_seqN_map {α} {f : α → Task ι} {l : List α} (h : ∀ a, a ∈ l → (f a).NoScope) :
    (seqN (l.map f)).NoScope := by
  induction l with
  | nil => trivial
  | cons a l ih => exact ⟨h a (by simp), ih fun b hb => h b (by simp [hb])⟩

theorem noScope_parN_map {α} {f : α → Task ι} {l : List α} (h : ∀ a, a ∈ l → (f a).NoScope) :
    (parN (l.map f)).NoScope := by
  induction l with
  | nil => trivial
  | cons a l ih => exact ⟨h a (by simp), ih fun b hb => h b (by simp [hb])⟩

theorem noPar_seqN_map {α} {f : α → Task ι} {l : List α} (h : ∀ a, a ∈ l → (f a).NoPar) :
    (seqN (l.map f)).NoPar := by
  induction l with
  | nil => trivial
  | cons a l ih => exact ⟨h a (by simp), ih fun b hb => h b (by simp [hb])⟩

theorem before_seqN_map_of_mem {α} {f : α → Task ι} {l : List α} {a : α} {x y : ι} (ha : a ∈ l)
    (h : Before (f a) x y) : Before (seqN (l.map f)) x y := by
  induction l with
  | nil => cases ha
  | cons b l ih =>
    rcases List.mem_cons.mp ha with rfl | ha'
    · exact .seqL h
    · exact .seqR (ih ha')

theorem before_parN_map_of_mem {α} {f : α → Task ι} {l : List α} {a : α} {x y : ι} (ha : a ∈ l)
    (h : Before (f a) x y) : Before (parN (l.map f)) x y := by
  induction l with
  | nil => cases ha
  | cons b l ih =>
    rcases List.mem_cons.mp ha with rfl | ha'
    · exact .parL h
    · exact .parR (ih ha')

theorem before_seqN_map_of_lt {α} {f : α → Task ι} {l : List α} {i j : Nat} {a b : α} {x y : ι}
    (hi : l[i]? = some a) (hj : l[j]? = some b) (hij : i < j) (hx : x ∈ (f a).sys) (hy : y ∈ (f b).sys) :
    Before (seqN (l.map f)) x y := by
  induction l generalizing i j with
  | nil => cases hi
  | cons c l ih =>
    cases j with
    | zero => exact absurd hij (Nat.not_lt_zero i)
    | succ j =>
      cases i with
      | zero =>
        cases hi
        exact .here hx (sys_seqN_map f l ▸ List.mem_flatMap.mpr ⟨b, List.mem_of_getElem? hj, hy⟩)
      | succ i => exact .seqR (ih hi hj (Nat.lt_of_succ_lt_succ hij))

theorem traces_seqN_map {α} (g : α → Task ι) (f : α → List (Ev ι)) (hg : ∀ a l, Traces (g a) l → l = f a)
    (xs : List α) {l : List (Ev ι)} (h : Traces (seqN (xs.map g)) l) : l = xs.flatMap f := by
  induction xs generalizing l with
  | nil => cases h; rfl
  | cons x xs ih =>
    cases h with
    | seq ha hb => rw [hg x _ ha, ih hb]; rfl

end Shred
