import ShredModel.Model.ParSeq
import ShredModel.Lemmas.Exec
import ShredModel.Lemmas.Table
/-!
# Facts about `Par` / `Seq` trees (C16)

Every method of `RunWithPool` (`reads`, `writes`, `setup`) threads its argument through the tree head
first and acts at the leaves, so it is a left fold over `leaves` (`foldl_leaves`). `toTask` keeps the
leaves, the order a `Seq` node imposes and, for a `Checked` tree, the compatibility of the two sides of
every `Par` node: what the trace theorems of `Lemmas/Exec.lean` ask of a task. The two macros are
described by what holds pairwise of their children: `seq![..]` orders them, `par![..]` succeeds iff they
are `Apart`.
-/
namespace Shred

namespace PS

/-- The four hypotheses are the defining equations of `f`; they are defaulted because for the walks of
the model each holds by unfolding the definition. -/
theorem foldl_leaves {σ} (f : PS → σ → σ) (g : σ → Nat → σ) (t : PS) (a : σ)
    (hnil : ∀ a, f .nil a = a := by intros; rfl)
    (hleaf : ∀ s a, f (.leaf s) a = g a s := by intros; rfl)
    (hpar : ∀ h t a, f (.par h t) a = f t (f h a) := by intros; rfl)
    (hseq : ∀ h t a, f (.seq h t) a = f t (f h a) := by intros; rfl) :
    f t a = t.leaves.foldl g a := by
  induction t generalizing a with
  | nil => exact hnil a
  | leaf s => exact hleaf s a
  | par h t ih1 ih2 => rw [hpar, ih1, ih2, leaves, List.foldl_append]
  | seq h t ih1 ih2 => rw [hseq, ih1, ih2, leaves, List.foldl_append]

theorem readsAcc_eq (decl : Nat → Decl) (t : PS) (acc : List ResId) :
    readsAcc decl t acc = acc ++ t.leaves.flatMap (fun x => (decl x).reads) :=
  (foldl_leaves (readsAcc decl) (fun a s => a ++ (decl s).reads) t acc).trans (foldl_append_flatMap ..)

theorem writesAcc_eq (decl : Nat → Decl) (t : PS) (acc : List ResId) :
    writesAcc decl t acc = acc ++ t.leaves.flatMap (fun x => (decl x).writes) :=
  (foldl_leaves (writesAcc decl) (fun a s => a ++ (decl s).writes) t acc).trans (foldl_append_flatMap ..)

theorem setupAcc_eq (t : PS) (acc : List Nat) : setupAcc t acc = acc ++ t.leaves :=
  (foldl_leaves setupAcc (fun a s => a ++ [s]) t acc).trans
    (by rw [foldl_append_flatMap (fun s => [s])]; simp)

theorem reads_eq (decl : Nat → Decl) (t : PS) :
    reads decl t = t.leaves.flatMap (fun x => (decl x).reads) :=
  (readsAcc_eq decl t []).trans (List.nil_append _)

theorem writes_eq (decl : Nat → Decl) (t : PS) :
    writes decl t = t.leaves.flatMap (fun x => (decl x).writes) :=
  (writesAcc_eq decl t []).trans (List.nil_append _)

theorem mem_reads (decl : Nat → Decl) (t : PS) (r : ResId) :
    r ∈ reads decl t ↔ ∃ x, x ∈ t.leaves ∧ r ∈ (decl x).reads := by
  rw [reads_eq, List.mem_flatMap]

theorem mem_writes (decl : Nat → Decl) (t : PS) (r : ResId) :
    r ∈ writes decl t ↔ ∃ x, x ∈ t.leaves ∧ r ∈ (decl x).writes := by
  rw [writes_eq, List.mem_flatMap]

theorem reads_writes_congr {decl decl' : Nat → Decl} {t : PS} (h : ∀ x, x ∈ t.leaves → decl x = decl' x) :
    reads decl t = reads decl' t ∧ writes decl t = writes decl' t := by
  simp only [reads_eq, writes_eq, List.flatMap_def]
  exact ⟨by rw [List.map_congr_left fun x hx => by rw [h x hx]],
    by rw [List.map_congr_left fun x hx => by rw [h x hx]]⟩

theorem declOf_own {spec : Nat → LeafSpec} {s : Nat} {d : Decl} (h : (spec s).own = some d) :
    declOf spec s = d := by
  simp [declOf, LeafSpec.accessor, h]

theorem declOf_default {spec : Nat → LeafSpec} {s : Nat} {d : Decl} (ho : (spec s).own = none)
    (h : (spec s).tryNew = some d) : declOf spec s = d := by
  simp [declOf, LeafSpec.accessor, ho, h]

theorem createAbsent_append (w l l' : List ResId) :
    createAbsent w (l ++ l') = createAbsent (createAbsent w l) l' := by
  induction l generalizing w with
  | nil => rfl
  | cons a l ih => exact ih _

theorem mem_createAbsent (l w : List ResId) (r : ResId) :
    r ∈ createAbsent w l ↔ r ∈ w ∨ r ∈ l := by
  induction l generalizing w with
  | nil => simp [createAbsent]
  | cons a l ih =>
    rw [createAbsent, ih]
    by_cases hc : a ∈ w
    · simp only [List.contains_iff_mem, hc, if_true, List.mem_cons]
      exact ⟨fun h => h.imp_right .inr, fun h => h.elim .inl (fun h => h.elim (fun e => .inl (e ▸ hc)) .inr)⟩
    · simp [hc, or_assoc]

theorem createAbsent_extends (l w : List ResId) : ∃ ext, createAbsent w l = w ++ ext := by
  induction l generalizing w with
  | nil => exact ⟨[], (List.append_nil w).symm⟩
  | cons a l ih =>
    rw [createAbsent]
    split
    · exact ih w
    · obtain ⟨ext, he⟩ := ih (w ++ [a])
      exact ⟨a :: ext, by rw [he]; simp⟩

theorem setupWorldAcc_eq (creates : Nat → List ResId) (t : PS) (w : List ResId) :
    setupWorldAcc creates t w = createAbsent w (t.leaves.flatMap creates) := by
  rw [foldl_leaves (setupWorldAcc creates) (fun w s => createAbsent w (creates s))]
  induction t.leaves generalizing w with
  | nil => rfl
  | cons s l ih => rw [List.foldl_cons, ih, List.flatMap_cons, createAbsent_append]

theorem mem_setupWorldAcc (creates : Nat → List ResId) (t : PS) (w : List ResId) (r : ResId) :
    r ∈ setupWorldAcc creates t w ↔ r ∈ w ∨ ∃ x, x ∈ t.leaves ∧ r ∈ creates x := by
  rw [setupWorldAcc_eq, mem_createAbsent, List.mem_flatMap]

theorem setupWorldAcc_extends (creates : Nat → List ResId) (t : PS) (w : List ResId) :
    ∃ ext, setupWorldAcc creates t w = w ++ ext :=
  setupWorldAcc_eq creates t w ▸ createAbsent_extends _ _

theorem setup_keeps (d : Disp) (v : Via) (creates : Nat → List ResId) (w : List ResId) :
    (d.setup v creates w).1 = d := rfl

theorem setups_eq (d : Disp) (creates : Nat → List ResId) (calls : List (Via × List ResId)) :
    d.setups creates calls = calls.map (fun c => (d.run.leaves, setupWorldAcc creates d.run c.2)) := by
  induction calls with
  | nil => rfl
  | cons c rest ih =>
    rw [Disp.setups, setup_keeps, ih, List.map_cons, Disp.setup, setupOrder, setupAcc_eq, List.nil_append]

theorem sys_toTask (t : PS) : (toTask t).sys = t.leaves := by
  induction t with
  | nil | leaf s => rfl
  | par h t ih1 ih2 | seq h t ih1 ih2 => simp [toTask, Task.sys, leaves, ih1, ih2]

theorem seqTrace_toTask (t : PS) : (toTask t).seqTrace = t.leaves.flatMap fun s => [.F s, .D s] := by
  induction t with
  | nil | leaf s => rfl
  | par h t ih1 ih2 | seq h t ih1 ih2 => simp [toTask, Task.seqTrace, leaves, ih1, ih2]

theorem par_heads_open {a b : PS} {x y : Nat} {xs ys : List Nat} (ha : a.leaves = x :: xs)
    (hb : b.leaves = y :: ys) : ∃ l, Traces (toTask (.par a b)) (Ev.F x :: Ev.F y :: l) := by
  have hla := traces_seqTrace (toTask a)
  have hlb := traces_seqTrace (toTask b)
  rw [seqTrace_toTask, ha] at hla
  rw [seqTrace_toTask, hb] at hlb
  exact ⟨_, .par hla hlb (.left (.right (shuffle_append _ _)))⟩

theorem noScope_toTask (t : PS) : (toTask t).NoScope := by
  induction t with
  | nil | leaf s => trivial
  | par a b ih1 ih2 | seq a b ih1 ih2 => exact ⟨ih1, ih2⟩

/-- `Sub s t`: `s` occurs as a node of `t` -/
inductive Sub (s : PS) : PS → Prop
  | refl : Sub s s
  | parL {h t} : Sub s h → Sub s (.par h t)
  | parR {h t} : Sub s t → Sub s (.par h t)
  | seqL {h t} : Sub s h → Sub s (.seq h t)
  | seqR {h t} : Sub s t → Sub s (.seq h t)

theorem Sub.leaves {s t : PS} (h : Sub s t) : ∀ x, x ∈ s.leaves → x ∈ t.leaves := by
  induction h with
  | refl => exact fun x hx => hx
  | parL _ ih | seqL _ ih => exact fun x hx => List.mem_append_left _ (ih x hx)
  | parR _ ih | seqR _ ih => exact fun x hx => List.mem_append_right _ (ih x hx)

theorem Sub.trans {a b c : PS} (h1 : Sub a b) (h2 : Sub b c) : Sub a c := by
  induction h2 with
  | refl => exact h1
  | parL _ ih => exact .parL ih
  | parR _ ih => exact .parR ih
  | seqL _ ih => exact .seqL ih
  | seqR _ ih => exact .seqR ih

theorem Sub.before {s t : PS} (h : Sub s t) {x y : Nat} (hb : Before (toTask s) x y) :
    Before (toTask t) x y := by
  induction h with
  | refl => exact hb
  | parL _ ih => exact .parL ih
  | parR _ ih => exact .parR ih
  | seqL _ ih => exact .seqL ih
  | seqR _ ih => exact .seqR ih

/-- a `seq` node anywhere in the tree orders the leaves of its head before those of its tail -/
theorem before_of_sub {a b t : PS} (h : Sub (.seq a b) t) {x y : Nat}
    (hx : x ∈ a.leaves) (hy : y ∈ b.leaves) : Before (toTask t) x y :=
  h.before (.here (sys_toTask a ▸ hx) (sys_toTask b ▸ hy))

theorem leaves_foldl_seqWith (cs : List PS) (h : PS) :
    (cs.foldl seqWith h).leaves = h.leaves ++ cs.flatMap leaves := by
  induction cs generalizing h with
  | nil => simp
  | cons c cs ih => simp [List.foldl, ih, seqWith, leaves]

theorem leaves_seqOf (c0 : PS) (cs : List PS) : (seqOf c0 cs).leaves = (c0 :: cs).flatMap leaves := by
  simp [seqOf, seqNew, leaves, leaves_foldl_seqWith]

theorem Sub.foldl_seqWith {s h : PS} (hs : Sub s h) (cs : List PS) : Sub s (cs.foldl seqWith h) := by
  induction cs generalizing h with
  | nil => exact hs
  | cons c cs ih => exact ih (.seqL hs)

/-- an earlier child lies in the head of a `Seq` node whose tail is the later one -/
theorem pairwise_before_foldl_seqWith (cs : List PS) (h : PS) :
    (h :: cs).Pairwise fun a b =>
      ∀ x, x ∈ a.leaves → ∀ y, y ∈ b.leaves → Before (toTask (cs.foldl seqWith h)) x y := by
  induction cs generalizing h with
  | nil => exact List.pairwise_singleton ..
  | cons c cs ih =>
    obtain ⟨hhc, hcs⟩ := List.pairwise_cons.mp (ih (seqWith h c))
    refine List.pairwise_cons.mpr ⟨fun d hd x hx y hy => ?_, List.pairwise_cons.mpr ⟨fun d hd x hx => ?_, hcs⟩⟩
    · rcases List.mem_cons.mp hd with rfl | hd
      · exact before_of_sub (Sub.foldl_seqWith .refl cs) hx hy
      · exact hhc d hd x (List.mem_append_left _ hx) y hy
    · exact hhc d hd x (List.mem_append_right _ hx)

theorem pairwise_before_seqOf (c0 : PS) (cs : List PS) :
    (c0 :: cs).Pairwise fun a b =>
      ∀ x, x ∈ a.leaves → ∀ y, y ∈ b.leaves → Before (toTask (seqOf c0 cs)) x y :=
  (pairwise_before_foldl_seqWith cs c0).imp fun h x hx y hy => .seqL (h x hx y hy)

/-- some system of `xs` conflicts (W/R, W/W or R/W) with some system of `ys` -/
def ConflictL (decl : Nat → Decl) (xs ys : List Nat) : Prop :=
  ∃ x, x ∈ xs ∧ ∃ y, y ∈ ys ∧ conflictsD (decl x) (decl y)

theorem conflictL_append_left (decl : Nat → Decl) (xs xs' ys : List Nat) :
    ConflictL decl (xs ++ xs') ys ↔ ConflictL decl xs ys ∨ ConflictL decl xs' ys := by
  simp only [ConflictL, List.mem_append, or_and_right, exists_or]

/-- what `Par::with` tests of the head `a` and the new child `c` -/
def Apart (decl : Nat → Decl) (a c : PS) : Prop := ¬ ConflictL decl a.leaves c.leaves

theorem apart_par_left (decl : Nat → Decl) (h c d : PS) :
    Apart decl (.par h c) d ↔ Apart decl h d ∧ Apart decl c d := by
  simp only [Apart, leaves, conflictL_append_left, not_or]

theorem withCheck_false_iff {decl : Nat → Decl} {h sys : PS} :
    withCheck decl h sys = false ↔ ConflictL decl h.leaves sys.leaves := by
  unfold withCheck
  rw [Bool.not_eq_false', Bool.or_eq_true, Bool.or_eq_true, inter_iff, inter_iff, inter_iff]
  simp only [mem_reads, mem_writes]
  constructor
  · rintro ((⟨r, ⟨x, hx, hxr⟩, y, hy, hyr⟩ | ⟨r, ⟨x, hx, hxr⟩, y, hy, hyr⟩) | ⟨r, ⟨x, hx, hxr⟩, y, hy, hyr⟩)
    · exact ⟨x, hx, y, hy, Or.inl ⟨r, hxr, Or.inr hyr⟩⟩
    · exact ⟨x, hx, y, hy, Or.inl ⟨r, hxr, Or.inl hyr⟩⟩
    · exact ⟨x, hx, y, hy, Or.inr ⟨r, hxr, hyr⟩⟩
  · rintro ⟨x, hx, y, hy, (⟨r, hxr, hyr | hyr⟩ | ⟨r, hxr, hyr⟩)⟩
    · exact Or.inl (Or.inr ⟨r, ⟨x, hx, hxr⟩, y, hy, hyr⟩)
    · exact Or.inl (Or.inl ⟨r, ⟨x, hx, hxr⟩, y, hy, hyr⟩)
    · exact Or.inr ⟨r, ⟨x, hx, hxr⟩, y, hy, hyr⟩

theorem withCheck_true_iff {decl : Nat → Decl} {h sys : PS} :
    withCheck decl h sys = true ↔ Apart decl h sys := by
  rw [Apart, ← withCheck_false_iff, Bool.not_eq_false]

theorem withCheck_nil (decl : Nat → Decl) (h : PS) : withCheck decl h .nil = true :=
  withCheck_true_iff.mpr fun ⟨_, _, _, hy, _⟩ => nomatch hy

theorem withCheck_congr {decl decl' : Nat → Decl} {h sys : PS} (hh : ∀ x, x ∈ h.leaves → decl x = decl' x)
    (hs : ∀ x, x ∈ sys.leaves → decl x = decl' x) : withCheck decl h sys = withCheck decl' h sys := by
  rw [withCheck, withCheck, (reads_writes_congr hh).1, (reads_writes_congr hh).2,
    (reads_writes_congr hs).1, (reads_writes_congr hs).2]

/-- the step of `Par::with`, which puts `Par { h, c }` in the place of the head `h` -/
theorem pairwise_apart_cons {decl : Nat → Decl} {h c : PS} {cs : List PS} :
    (h :: c :: cs).Pairwise (Apart decl) ↔ Apart decl h c ∧ (PS.par h c :: cs).Pairwise (Apart decl) := by
  simp only [List.pairwise_cons, List.mem_cons, forall_eq_or_imp, apart_par_left]
  exact ⟨fun ⟨⟨h1, h2⟩, h3, h4⟩ => ⟨h1, fun d hd => ⟨h2 d hd, h3 d hd⟩, h4⟩,
    fun ⟨h1, h2, h4⟩ => ⟨⟨h1, fun d hd => (h2 d hd).1⟩, fun d hd => (h2 d hd).2, h4⟩⟩

/-- complete description of the fold of `Par::with`: on success the head holds all children and no
child conflicted with what was there before it; on failure `j` is the first child that does (`j - k`
is its position in `cs`) -/
theorem parFold_spec (decl : Nat → Decl) (cs : List PS) (h : PS) (k : Nat) :
    match parFold decl h cs k with
    | .ok h' => h' = cs.foldl .par h ∧ (h :: cs).Pairwise (Apart decl)
    | .error j => ∃ p c q, cs = p ++ c :: q ∧ j = k + p.length ∧ (h :: p).Pairwise (Apart decl)
        ∧ ∃ a, a ∈ h :: p ∧ ConflictL decl a.leaves c.leaves := by
  induction cs generalizing h k with
  | nil => exact ⟨rfl, List.pairwise_singleton ..⟩
  | cons c cs ih =>
    rw [parFold, parWith]
    cases hw : withCheck decl h c with
    | false =>
      exact ⟨[], c, cs, rfl, rfl, List.pairwise_singleton .., h, List.mem_cons_self,
        withCheck_false_iff.mp hw⟩
    | true =>
      have hhc := withCheck_true_iff.mp hw
      have := ih (.par h c) (k + 1)
      simp only [if_true]
      revert this
      cases parFold decl (.par h c) cs (k + 1) with
      | ok h' => exact fun this => ⟨this.1, pairwise_apart_cons.mpr ⟨hhc, this.2⟩⟩
      | error j =>
        rintro ⟨p, c', q, rfl, rfl, hp, a, ha, hac⟩
        refine ⟨c :: p, c', q, rfl, by rw [List.length_cons]; omega, pairwise_apart_cons.mpr ⟨hhc, hp⟩, ?_⟩
        -- a conflict with the head `Par { h, c }` is one with `h` or with `c`
        rcases List.mem_cons.mp ha with rfl | ha
        · rcases (conflictL_append_left ..).mp hac with hc | hc
          · exact ⟨h, List.mem_cons_self, hc⟩
          · exact ⟨c, List.mem_cons_of_mem _ List.mem_cons_self, hc⟩
        · exact ⟨a, List.mem_cons_of_mem _ (List.mem_cons_of_mem _ ha), hac⟩

theorem parOf_apart (decl : Nat → Decl) (c0 : PS) (cs : List PS) :
    match parOf decl c0 cs with
    | .ok t => t = parNew (cs.foldl .par c0) ∧ (c0 :: cs).Pairwise (Apart decl)
    | .error j => ∃ p c q, cs = p ++ c :: q ∧ j = 1 + p.length ∧ (c0 :: p).Pairwise (Apart decl)
        ∧ ∃ a, a ∈ c0 :: p ∧ ConflictL decl a.leaves c.leaves := by
  have spec := parFold_spec decl cs c0 1
  unfold parOf
  revert spec
  cases parFold decl c0 cs 1 with
  | ok h => exact fun ⟨e, hp⟩ => ⟨congrArg parNew e, hp⟩
  | error j => exact id

/-- every `Par { head, tail }` node of the tree passed the debug check of `Par::with` -/
def Checked (decl : Nat → Decl) : PS → Prop
  | .nil => True
  | .leaf _ => True
  | .par h t => withCheck decl h t = true ∧ Checked decl h ∧ Checked decl t
  | .seq h t => Checked decl h ∧ Checked decl t

theorem checked_foldl_par (decl : Nat → Decl) (cs : List PS) (h : PS) (hh : Checked decl h)
    (hcs : ∀ c, c ∈ cs → Checked decl c) (hp : (h :: cs).Pairwise (Apart decl)) :
    Checked decl (cs.foldl .par h) := by
  induction cs generalizing h with
  | nil => exact hh
  | cons c cs ih =>
    have ⟨hhc, hp'⟩ := pairwise_apart_cons.mp hp
    exact ih (.par h c) ⟨withCheck_true_iff.mpr hhc, hh, hcs c List.mem_cons_self⟩
      (fun d hd => hcs d (List.mem_cons_of_mem _ hd)) hp'

theorem checked_foldl_seqWith (decl : Nat → Decl) (cs : List PS) (h : PS)
    (hh : Checked decl h) (hcs : ∀ c, c ∈ cs → Checked decl c) : Checked decl (cs.foldl seqWith h) := by
  induction cs generalizing h with
  | nil => exact hh
  | cons c cs ih =>
    exact ih (seqWith h c) ⟨hh, hcs c List.mem_cons_self⟩ (fun d hd => hcs d (List.mem_cons_of_mem _ hd))

/-- A `Par` node that `par![..]` returns has its children pairwise apart (`parOf_apart`), which is what
`Checked` asks of it. -/
theorem checked_parOf {decl : Nat → Decl} {c0 t : PS} {cs : List PS} (h : ∀ c, c ∈ c0 :: cs → Checked decl c)
    (he : parOf decl c0 cs = .ok t) : Checked decl t := by
  have spec := parOf_apart decl c0 cs
  rw [he] at spec
  rw [spec.1]
  exact ⟨withCheck_nil decl _, checked_foldl_par decl cs c0 (h c0 List.mem_cons_self)
    (fun c hc => h c (List.mem_cons_of_mem _ hc)) spec.2, trivial⟩

theorem checked_seqOf {decl : Nat → Decl} {c0 : PS} {cs : List PS} (h : ∀ c, c ∈ c0 :: cs → Checked decl c) :
    Checked decl (seqOf c0 cs) :=
  ⟨checked_foldl_seqWith decl cs c0 (h c0 List.mem_cons_self) fun c hc => h c (List.mem_cons_of_mem _ hc),
    trivial⟩

/-- a checked tree is a well-formed task: the two sides of every `par` are pairwise compatible -/
theorem wf_of_checked (decl : Nat → Decl) (t : PS) (h : Checked decl t) :
    WF (fun x y => ¬ conflictsD (decl x) (decl y)) (toTask t) := by
  induction t with
  | nil | leaf s => trivial
  | par a b ih1 ih2 =>
    refine ⟨fun x hx y hy hc => ?_, ih1 h.2.1, ih2 h.2.2⟩
    rw [sys_toTask] at hx hy
    exact withCheck_true_iff.mp h.1 ⟨x, hx, y, hy, hc⟩
  | seq a b ih1 ih2 => exact ⟨ih1 h.1, ih2 h.2⟩

end PS
end Shred
