import ShredModel.Model.Nested
/-!
# Which thread runs what (C12)

`nThreads` (`Model/Nested.lean`) lists, for one dispatch called from thread `caller`, every instance
together with the thread that runs it. C12 needs its entries for the dispatcher's own systems: a
thread-local system gets the caller's thread, a staged one a pool worker under `dispatch` /
`dispatch_par` and the caller's thread under `dispatch_seq`, and at that depth there is nothing else.
-/
namespace Shred

theorem tl_thread_mem (par : Bool) (stages : Table (List SysTag)) (tl : List SysTag)
    (bs : List (SysTag × Threads)) (caller : Char) (pfx : Inst) (t : SysTag) (ht : t ∈ tl) :
    (pfx ++ [t], caller) ∈ nThreads par stages tl bs caller pfx := by
  unfold nThreads
  exact List.mem_append_right _ (List.mem_map_of_mem ht)

theorem staged_thread_mem (par : Bool) (stages : Table (List SysTag)) (tl : List SysTag)
    (bs : List (SysTag × Threads)) (caller : Char) (pfx : Inst) (t : SysTag) (ht : t ∈ stages.flatten.flatten) :
    (pfx ++ [t], if par then 'w' else caller) ∈ nThreads par stages tl bs caller pfx := by
  unfold nThreads
  apply List.mem_append_left
  apply List.mem_flatMap.mpr
  exact ⟨t, ht, by simp⟩

theorem nThreads_top_level (par : Bool) (stages : Table (List SysTag)) (tl : List SysTag)
    (bs : List (SysTag × Threads)) (hbs : ∀ t inner c p x, findThreads bs t = some inner → x ∈ inner c p → p.length < x.1.length)
    (caller : Char) (pfx : Inst) (x : Inst × Char) (hx : x ∈ nThreads par stages tl bs caller pfx)
    (hlen : x.1.length = pfx.length + 1) :
    (∃ t, t ∈ stages.flatten.flatten ∧ x = (pfx ++ [t], if par then 'w' else caller)) ∨
    (∃ t, t ∈ tl ∧ x = (pfx ++ [t], caller)) := by
  unfold nThreads at hx
  rcases List.mem_append.mp hx with h | h
  · obtain ⟨t, ht, hxt⟩ := List.mem_flatMap.mp h
    rcases List.mem_cons.mp hxt with rfl | hin
    · exact Or.inl ⟨t, ht, rfl⟩
    · -- what the table of a batch `t` contributes lies deeper than `pfx ++ [t]`
      exfalso
      cases hf : findThreads bs t with
      | none => simp [hf] at hin
      | some inner =>
        have hlt := hbs t inner _ _ x hf (by simpa only [hf] using hin)
        rw [hlen, List.length_append] at hlt
        exact Nat.lt_irrefl _ hlt
  · obtain ⟨t, ht, rfl⟩ := List.mem_map.mp h
    exact Or.inr ⟨t, ht, rfl⟩

end Shred
