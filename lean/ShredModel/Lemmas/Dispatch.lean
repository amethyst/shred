import ShredModel.Model.Nested
import ShredModel.Lemmas.TaskN
import ShredModel.Lemmas.Exec
import ShredModel.Lemmas.ListAux
/-!
# The shape of a dispatch

`dispatchTask`, `dispatchSeqTask` and `nDispatchTask` are one tree: the stages in sequence,
the groups of a stage side by side (`par`) or one after the other, the systems of a group in
sequence, then the thread-local systems. They differ in what a staged system runs (`f t`: a
leaf, or the scope of a batch around its body) and in how a tag becomes an instance (`k`).
`dispatchOf` is that tree with `f` and `k` left open; what the trace theorems need of a plan —
its instances, `WF`, the order `Before`, its sequential reading — is proved here once, from
facts about the executed table alone.
-/
namespace Shred
open Shred.Task

variable {ι : Type}

abbrev groupOf (f : SysTag → Task ι) (g : List SysTag) : Task ι := seqN (g.map f)

def stageOf (par : Bool) (f : SysTag → Task ι) (st : List (List SysTag)) : Task ι :=
  if par then parN (st.map (groupOf f)) else seqN (st.map (groupOf f))

def dispatchOf (par : Bool) (f : SysTag → Task ι) (k : SysTag → ι) (stages : Table (List SysTag))
    (tl : List SysTag) : Task ι :=
  .seq (seqN (stages.map (stageOf par f))) (seqN (tl.map fun u => .leaf (k u)))

/-- layout order on the executed table: an earlier stage, or earlier in the same group -/
def TOrdered (stages : Table (List SysTag)) (A B : SysTag) : Prop :=
  (∃ (sa sb : Nat) (sta stb : List (List SysTag)), sa < sb ∧ stages[sa]? = some sta ∧ stages[sb]? = some stb ∧ A ∈ sta.flatten ∧ B ∈ stb.flatten) ∨
  (∃ (s : Nat) (st : List (List SysTag)) (k : Nat) (g : List SysTag) (i j : Nat),
    stages[s]? = some st ∧ st[k]? = some g ∧ i < j ∧ g[i]? = some A ∧ g[j]? = some B)

theorem dispatchTask_eq (stages : Table (List SysTag)) (tl : List SysTag) :
    dispatchTask stages tl = dispatchOf true .leaf id stages tl := rfl

theorem dispatchSeqTask_eq (stages : Table (List SysTag)) (tl : List SysTag) :
    dispatchSeqTask stages tl = dispatchOf false .leaf id stages tl := rfl

theorem nDispatchTask_eq (par : Bool) (stages : Table (List SysTag)) (tl : List SysTag)
    (bs : List (SysTag × Body)) (pfx : Inst) :
    nDispatchTask par stages tl bs pfx = dispatchOf par (leafOf bs pfx) (pfx ++ [·]) stages tl := rfl

variable (par : Bool) (f : SysTag → Task ι) (k : SysTag → ι)

@[elab_as_elim]
theorem stageOf_cases {P : Task ι → Prop} (st : List (List SysTag)) (hs : P (seqN (st.map (groupOf f))))
    (hp : P (parN (st.map (groupOf f)))) : P (stageOf par f st) := by
  cases par
  · exact hs
  · exact hp

theorem seqTrace_stageOf (st : List (List SysTag)) :
    (stageOf par f st).seqTrace = (stageOf false f st).seqTrace :=
  stageOf_cases par f st rfl ((seqTrace_parN _).trans (seqTrace_seqN _).symm)

/-- reading the parallel plan group by group is what `dispatch_seq` executes -/
theorem seqTrace_dispatchOf (stages : Table (List SysTag)) (tl : List SysTag) :
    (dispatchOf par f k stages tl).seqTrace = (dispatchOf false f k stages tl).seqTrace := by
  simp only [dispatchOf, Task.seqTrace, seqTrace_seqN, List.flatMap_map, seqTrace_stageOf par]

theorem noPar_dispatchOf (hf : ∀ t, (f t).NoPar) (stages : Table (List SysTag)) (tl : List SysTag) :
    (dispatchOf false f k stages tl).NoPar :=
  ⟨noPar_seqN_map fun _ _ => noPar_seqN_map fun _ _ => noPar_seqN_map fun t _ => hf t,
    noPar_seqN_map fun _ _ => trivial⟩

theorem sys_stageOf (st : List (List SysTag)) :
    (stageOf par f st).sys = st.flatten.flatMap fun t => (f t).sys := by
  have h : (stageOf par f st).sys = st.flatMap fun g => (groupOf f g).sys :=
    stageOf_cases par f st (sys_seqN_map (groupOf f) st) (sys_parN_map (groupOf f) st)
  simp only [h, sys_seqN_map, flatMap_flatten]

theorem sys_stagesOf (stages : Table (List SysTag)) :
    (seqN (stages.map (stageOf par f))).sys = stages.flatten.flatten.flatMap fun t => (f t).sys := by
  simp only [sys_seqN_map, sys_stageOf, flatMap_flatten]

theorem sys_dispatchOf (stages : Table (List SysTag)) (tl : List SysTag) :
    (dispatchOf par f k stages tl).sys =
      (stages.flatten.flatten.flatMap fun t => (f t).sys) ++ tl.map k := by
  rw [dispatchOf, Task.sys, sys_stagesOf, sys_seqN_map, List.map_eq_flatMap]; rfl

/-- Distinct tags give distinct instances, provided an instance shows which tag it came from:
`tag` reads that off (for nested plans, the entry right behind the prefix: `tagAt` in `Lemmas/Nested.lean`), `htf` says it
is right on everything a staged system runs, `htk` on the thread-local instances. -/
theorem nodup_dispatchOf (tag : ι → SysTag) (hf : ∀ t, (f t).sys.Nodup)
    (htf : ∀ t y, y ∈ (f t).sys → tag y = t) (htk : ∀ u, tag (k u) = u)
    {stages : Table (List SysTag)} {tl : List SysTag} (h : (stages.flatten.flatten ++ tl).Nodup) :
    (dispatchOf par f k stages tl).sys.Nodup := by
  rw [sys_dispatchOf]
  obtain ⟨hst, htl, hdisj⟩ := List.nodup_append.mp h
  refine List.nodup_append.mpr ⟨nodup_flatMap_of_key tag hst hf htf, ?_, ?_⟩
  · exact List.pairwise_map.mpr (htl.imp fun {a b} hne heq => hne (by rw [← htk a, heq, htk]))
  · intro x hx y hy hxy
    obtain ⟨t, ht, hxt⟩ := List.mem_flatMap.mp hx
    obtain ⟨u, hu, rfl⟩ := List.mem_map.mp hy
    exact hdisj t ht u hu (by rw [← htf t x hxt, hxy, htk])

/-- `R` relates the systems of different groups of a stage; if that makes everything under them
compatible, the plan is well-formed. For the scheduler `R a c` is `¬ conflictsD (D a) (D c)`, and
`hiso` is then `IsoTable D stages` (Lemmas/PlanTask.lean) unfolded. -/
theorem wf_dispatchOf {C : ι → ι → Prop} {R : SysTag → SysTag → Prop} (hf : ∀ t, WF C (f t))
    (hR : ∀ a c, R a c → ∀ x, x ∈ (f a).sys → ∀ y, y ∈ (f c).sys → C x y)
    {stages : Table (List SysTag)}
    (hiso : ∀ st, st ∈ stages → ∀ (i j : Nat) (gi gj : List SysTag), st[i]? = some gi → st[j]? = some gj →
      i ≠ j → ∀ a, a ∈ gi → ∀ c, c ∈ gj → R a c) (tl : List SysTag) :
    WF C (dispatchOf par f k stages tl) := by
  refine ⟨wf_seqN_map fun st hst => ?_, wf_seqN_map fun _ _ => trivial⟩
  have hg : ∀ g, g ∈ st → WF C (groupOf f g) := fun g _ => wf_seqN_map fun t _ => hf t
  refine stageOf_cases par f st (wf_seqN_map hg) (wf_parN_map hg ?_)
  -- side by side: two different groups of the stage hold systems related by `R`
  rw [List.pairwise_iff_getElem]
  intro i j hi hj hij x hx y hy
  rw [sys_seqN_map] at hx hy
  obtain ⟨a, ha, hxa⟩ := List.mem_flatMap.mp hx
  obtain ⟨c, hc, hyc⟩ := List.mem_flatMap.mp hy
  exact hR a c (hiso st hst i j _ _ (List.getElem?_eq_getElem hi) (List.getElem?_eq_getElem hj)
    (Nat.ne_of_lt hij) a ha c hc) x hxa y hyc

theorem noScope_dispatchOf (hf : ∀ t, (f t).NoScope) (stages : Table (List SysTag)) (tl : List SysTag) :
    (dispatchOf par f k stages tl).NoScope := by
  refine ⟨noScope_seqN_map fun st _ => ?_, noScope_seqN_map fun _ _ => trivial⟩
  have hg : ∀ g, g ∈ st → (groupOf f g).NoScope := fun _ _ => noScope_seqN_map fun t _ => hf t
  exact stageOf_cases par f st (noScope_seqN_map hg) (noScope_parN_map hg)

variable {par f k} {stages : Table (List SysTag)} {tl : List SysTag}

theorem before_dispatchOf_of_group {st : List (List SysTag)} {g : List SysTag}
    (hst : st ∈ stages) (hg : g ∈ st) {x y : ι} (h : Before (groupOf f g) x y) :
    Before (dispatchOf par f k stages tl) x y :=
  .seqL (before_seqN_map_of_mem hst
    (stageOf_cases par f st (before_seqN_map_of_mem hg h) (before_parN_map_of_mem hg h)))

theorem before_dispatchOf_ordered {A B : SysTag}
    (h : TOrdered stages A B) {x y : ι} (hx : x ∈ (f A).sys) (hy : y ∈ (f B).sys) :
    Before (dispatchOf par f k stages tl) x y := by
  rcases h with ⟨sa, sb, sta, stb, hlt, hsa, hsb, hA, hB⟩ | ⟨s, st, n, g, i, j, hs, hn, hij, hi, hj⟩
  · refine .seqL (before_seqN_map_of_lt hsa hsb hlt ?_ ?_)
    · rw [sys_stageOf]; exact List.mem_flatMap.mpr ⟨A, hA, hx⟩
    · rw [sys_stageOf]; exact List.mem_flatMap.mpr ⟨B, hB, hy⟩
  · exact before_dispatchOf_of_group (List.mem_of_getElem? hs) (List.mem_of_getElem? hn)
      (before_seqN_map_of_lt hi hj hij hx hy)

theorem before_dispatchOf_inner {t : SysTag}
    (ht : t ∈ stages.flatten.flatten) {x y : ι} (h : Before (f t) x y) :
    Before (dispatchOf par f k stages tl) x y := by
  obtain ⟨g, hg, htg⟩ := List.mem_flatten.mp ht
  obtain ⟨st, hst, hgst⟩ := List.mem_flatten.mp hg
  exact before_dispatchOf_of_group hst hgst (before_seqN_map_of_mem htg h)

theorem before_dispatchOf_tl {A u : SysTag}
    (hA : A ∈ stages.flatten.flatten) (hu : u ∈ tl) {x : ι} (hx : x ∈ (f A).sys) :
    Before (dispatchOf par f k stages tl) x (k u) := by
  refine .here ?_ ?_
  · rw [sys_stagesOf]; exact List.mem_flatMap.mpr ⟨A, hA, hx⟩
  · rw [sys_seqN_map]; exact List.mem_flatMap.mpr ⟨u, hu, List.mem_singleton.mpr rfl⟩

theorem before_dispatchOf_tl_order {i j : Nat} {u v : SysTag}
    (hi : tl[i]? = some u) (hj : tl[j]? = some v) (hij : i < j) :
    Before (dispatchOf par f k stages tl) (k u) (k v) :=
  .seqR (before_seqN_map_of_lt hi hj hij (List.mem_singleton.mpr rfl) (List.mem_singleton.mpr rfl))

end Shred
