import ShredModel.Lemmas.WorldInv
/-!
# C09 lemmas: the world as a typed map — abstraction, type tags, drop accounting.

`SameData` (the same data, whatever the borrow state) is `BorrowClosed` (`same_closed`), so every
`&self` call and the borrow halves of `entry` / `exec` keep `MapOk` for free. What is left are the
three writes: a value stored (`MapOk.put`), handed out (`MapOk.take`), dropped unused (`MapOk.discard`).
-/
namespace Shred
open World

/-- the abstract map: which value (token) is stored under which id -/
def World.abs (w : World) : ResId → Option Nat := fun k => (w.get k).map (·.token)

def upd (m : ResId → Option Nat) (k : ResId) (v : Option Nat) : ResId → Option Nat :=
  fun k' => if k' = k then v else m k'

theorem upd_same (m : ResId → Option Nat) (k : ResId) (v : Option Nat) : upd m k v k = v := if_pos rfl

theorem upd_other (m : ResId → Option Nat) {k k' : ResId} (v : Option Nat) (h : k' ≠ k) : upd m k v k' = m k' :=
  if_neg h

/-- the value stored under an id has the type named by the id -/
def Typed (w : World) : Prop := ∀ k c, w.get k = some c → c.ty = k.ty

def KeysNodup (w : World) : Prop := (w.cells.map (·.1)).Nodup

def World.tokens (w : World) : List Nat := w.cells.map (·.2.token)

/-- conservation of values: everything created is stored, was handed back, or was dropped —
with multiplicity -/
def Linear (w : World) : Prop :=
  ∀ t, w.tokens.count t + w.returned.count t + w.dropped.count t = w.created.count t

/-- `w'` differs from `w` at most in borrow counters, guards and the handle counter -/
structure SameData (w w' : World) : Prop where
  data : ∀ k, (w'.get k).map (fun c => (c.ty, c.token)) = (w.get k).map (fun c => (c.ty, c.token))
  keys : w'.cells.map (·.1) = w.cells.map (·.1)
  toks : w'.tokens = w.tokens
  created : w'.created = w.created
  returned : w'.returned = w.returned
  dropped : w'.dropped = w.dropped

theorem SameData.refl (w : World) : SameData w w where
  data _ := rfl
  keys := rfl
  toks := rfl
  created := rfl
  returned := rfl
  dropped := rfl

theorem SameData.trans {a b c : World} (h1 : SameData a b) (h2 : SameData b c) : SameData a c where
  data k := (h2.data k).trans (h1.data k)
  keys := h2.keys.trans h1.keys
  toks := h2.toks.trans h1.toks
  created := h2.created.trans h1.created
  returned := h2.returned.trans h1.returned
  dropped := h2.dropped.trans h1.dropped

theorem SameData.abs {w w' : World} (h : SameData w w') : w'.abs = w.abs := by
  funext k
  have := congrArg (Option.map Prod.snd) (h.data k)
  simpa [World.abs, Option.map_map, Function.comp_def] using this

theorem SameData.get {w w' : World} (h : SameData w w') {k : ResId} {c : Cell} (hc : w'.get k = some c) :
    ∃ c0, w.get k = some c0 ∧ c0.ty = c.ty ∧ c0.token = c.token := by
  have := h.data k
  rw [hc, Option.map_some] at this
  obtain ⟨c0, h0, e⟩ := Option.map_eq_some_iff.mp this.symm
  exact ⟨c0, h0, congrArg Prod.fst e, congrArg Prod.snd e⟩

theorem SameData.typed {w w' : World} (h : SameData w w') (ht : Typed w) : Typed w' := by
  intro k c hc
  obtain ⟨c0, h0, e, -⟩ := h.get hc
  rw [← e]
  exact ht k c0 h0

theorem SameData.linear {w w' : World} (h : SameData w w') (hl : Linear w) : Linear w' := by
  intro t; rw [h.toks, h.returned, h.dropped, h.created]; exact hl t

theorem map_setCell_same {β : Type} (f : ResId × Cell → β) {k : ResId} {c c' : Cell} {l : List (ResId × Cell)}
    (h : lookupCell k l = some c) (hf : f (k, c') = f (k, c)) : (setCell k c' l).map f = l.map f := by
  induction l with
  | nil => simp [lookupCell] at h
  | cons p rest ih =>
    by_cases h1 : p.1 = k
    · simp [lookupCell, h1] at h
      obtain ⟨k', c0⟩ := p
      cases h1; cases h
      simp [setCell, hf]
    · simp [lookupCell, h1] at h
      simp [setCell, h1, ih h]

theorem sameData_setBorrow {w : World} {k : ResId} {c : Cell} (h : w.get k = some c) {b : Borrow}
    {gs : List (Nat × Guard)} {n : Nat} :
    SameData w { w with cells := setCell k { c with borrow := b } w.cells, guards := gs, nextHandle := n } := by
  refine { data := fun k' => ?_, keys := map_setCell_same (·.1) h rfl, toks := map_setCell_same (·.2.token) h rfl,
           created := rfl, returned := rfl, dropped := rfl }
  show (lookupCell k' (setCell k _ w.cells)).map _ = (w.get k').map _
  by_cases hk : k' = k
  · rw [hk, lookup_setCell_same, h]; rfl
  · rw [lookup_setCell_other hk]; rfl

theorem release_same (w : World) (h : Nat) : SameData w (w.release h) := by
  cases hf : findGuard h w.guards with
  | none => rw [release_dead hf]; exact SameData.refl w
  | some g =>
    cases hg : w.get g.key with
    | none =>
      -- only the guard table differs
      rw [release_absent hf hg]
      exact { data := fun _ => rfl, keys := rfl, toks := rfl, created := rfl, returned := rfl, dropped := rfl }
    | some c => rw [release_live hf hg]; exact sameData_setBorrow hg

theorem same_closed (w0 : World) : BorrowClosed (SameData w0) :=
  ⟨fun hw hc _ => hw.trans (sameData_setBorrow hc), fun h hw => hw.trans (release_same _ h)⟩

theorem step_same_of_not_mut (w : World) (op : Op) (h : op.isMut = false) : SameData w (w.step op).1 :=
  step_closed_of_not_mut (same_closed w) (SameData.refl w) op h

theorem exec_same (w : World) (items : List SdItem) (toks : List Nat) :
    SameData (w.setup items toks).1 (w.exec items toks).1 :=
  exec_closed (same_closed _) items toks (SameData.refl _)

/-- what `entry()…` does to the data is its table write; the rest is a borrow taken and dropped -/
theorem entryScoped_same (w : World) (ty t : Nat) (bv : Bool) :
    SameData (w.entryData ty t bv) (w.entryScoped ty t bv).1 := by
  have h1 : SameData (w.entryData ty t bv) (w.entryOrInsert ty t bv).1 :=
    entryOrInsert_eq w ty t bv ▸ (fetchCore_moves ..).closed (same_closed _) (SameData.refl _)
  unfold entryScoped
  split
  · next w' h _ he => rw [he] at h1; exact h1.trans (release_same _ h)
  · exact h1

theorem eraseCell_not_mem {k : ResId} {l : List (ResId × Cell)} (h : k ∉ l.map (·.1)) : eraseCell k l = l := by
  induction l with
  | nil => rfl
  | cons p rest ih =>
    simp only [List.map_cons, List.mem_cons, not_or] at h
    have h1 : p.1 ≠ k := fun e => h.1 e.symm
    simp [eraseCell, h1, ih h.2]

theorem lookupCell_isSome_iff {k : ResId} {l : List (ResId × Cell)} :
    (lookupCell k l).isSome ↔ k ∈ l.map (·.1) := by
  induction l with
  | nil => exact ⟨nofun, nofun⟩
  | cons p rest ih =>
    rw [lookupCell, List.map_cons, List.mem_cons]
    split
    · next h => exact ⟨fun _ => Or.inl h.symm, fun _ => rfl⟩
    · next h => exact ih.trans ⟨Or.inr, fun hm => hm.elim (fun e => absurd e.symm h) id⟩

theorem lookup_some_mem {k : ResId} {c : Cell} {l : List (ResId × Cell)} (h : lookupCell k l = some c) :
    k ∈ l.map (·.1) :=
  lookupCell_isSome_iff.mp (by rw [h]; rfl)

theorem setCell_of_not_mem {k : ResId} {c : Cell} {l : List (ResId × Cell)} (h : k ∉ l.map (·.1)) :
    setCell k c l = l ++ [(k, c)] := by
  induction l with
  | nil => rfl
  | cons p rest ih =>
    simp only [List.map_cons, List.mem_cons, not_or] at h
    simp [setCell, Ne.symm h.1, ih h.2]

theorem count_tokens_setCell (k : ResId) (c : Cell) (l : List (ResId × Cell)) (t : Nat) :
    ((setCell k c l).map (·.2.token)).count t + (((lookupCell k l).map (·.token)).toList).count t =
      (l.map (·.2.token)).count t + [c.token].count t := by
  induction l with
  | nil => simp [setCell, lookupCell]
  | cons p rest ih =>
    by_cases h1 : p.1 = k
    · simp only [setCell, lookupCell, h1, if_true, List.map_cons, List.count_cons, Option.map_some,
        Option.toList_some, List.count_nil]
      omega
    · simp only [setCell, lookupCell, h1, if_false, List.map_cons, List.count_cons] at ih ⊢
      omega

theorem count_tokens_eraseCell {k : ResId} {c : Cell} {l : List (ResId × Cell)} (hn : (l.map (·.1)).Nodup)
    (h : lookupCell k l = some c) (t : Nat) :
    ((eraseCell k l).map (·.2.token)).count t + [c.token].count t = (l.map (·.2.token)).count t := by
  induction l with
  | nil => simp [lookupCell] at h
  | cons p rest ih =>
    simp only [List.map_cons, List.nodup_cons] at hn
    by_cases h1 : p.1 = k
    · simp [lookupCell, h1] at h
      rw [h1] at hn
      simp only [eraseCell, h1, if_true, eraseCell_not_mem hn.1, List.map_cons, List.count_cons, h,
        List.count_nil]
      omega
    · simp [lookupCell, h1] at h
      have := ih hn.2 h
      simp only [eraseCell, h1, if_false, List.map_cons, List.count_cons] at this ⊢
      omega

theorem keys_setCell_nodup {k : ResId} {c : Cell} {l : List (ResId × Cell)} (hn : (l.map (·.1)).Nodup) :
    ((setCell k c l).map (·.1)).Nodup := by
  by_cases hm : k ∈ l.map (·.1)
  · obtain ⟨c0, h⟩ := Option.isSome_iff_exists.mp (lookupCell_isSome_iff.mpr hm)
    rw [map_setCell_same (·.1) (c' := c) h rfl]; exact hn
  · rw [setCell_of_not_mem hm, List.map_append]
    exact List.nodup_append.mpr ⟨hn, List.pairwise_singleton _ _,
      fun a ha b hb e => hm ((List.mem_singleton.mp hb : b = k) ▸ e ▸ ha)⟩

theorem keys_eraseCell_nodup {k : ResId} {l : List (ResId × Cell)} (hn : (l.map (·.1)).Nodup) :
    ((eraseCell k l).map (·.1)).Nodup := by
  have : ((eraseCell k l).map (·.1)).Sublist (l.map (·.1)) := by
    clear hn
    induction l with
    | nil => simp [eraseCell]
    | cons p rest ih =>
      by_cases h1 : p.1 = k
      · simp only [eraseCell, h1, if_true, List.map_cons]
        exact List.Sublist.cons _ ih
      · simp only [eraseCell, h1, if_false, List.map_cons]
        exact List.Sublist.cons_cons _ ih
  exact hn.sublist this

theorem abs_setCell {w w' : World} {k : ResId} {c : Cell} (h : w'.cells = setCell k c w.cells) :
    w'.abs = upd w.abs k (some c.token) := by
  funext k'
  by_cases hk : k' = k
  · subst hk; simp [World.abs, upd, get_def, h]
  · simp [World.abs, upd, get_def, h, lookup_setCell_other hk, hk]

theorem abs_eraseCell {w w' : World} {k : ResId} (h : w'.cells = eraseCell k w.cells) : w'.abs = upd w.abs k none := by
  funext k'
  by_cases hk : k' = k
  · subst hk; simp [World.abs, upd, get_def, h]
  · simp [World.abs, upd, get_def, h, lookup_eraseCell_other hk, hk]

theorem abs_isSome {w : World} {k : ResId} : (w.abs k).isSome = (w.get k).isSome := Option.isSome_map

theorem abs_none_iff {w : World} {k : ResId} : w.abs k = none ↔ w.get k = none := by
  simp [World.abs]

theorem abs_some {w : World} {k : ResId} {c : Cell} (h : w.get k = some c) : w.abs k = some c.token :=
  congrArg (Option.map Cell.token) h

theorem abs_ghost (w : World) (cr re dr : List Nat) :
    World.abs { w with created := cr, returned := re, dropped := dr } = w.abs := rfl

theorem insertById_abs (w : World) (a : Nat) (k : ResId) (t : Nat) :
    (w.insertById a k t).1.abs = if a ≠ k.ty then w.abs else upd w.abs k (some t) := by
  by_cases h : a = k.ty
  · rw [insertById_of_eq h, if_neg fun e => e h]
    exact abs_setCell (c := ⟨a, t, .free⟩) rfl
  · rw [insertById_of_ne h, if_pos h]
    rfl

theorem insertById_out (w : World) (a : Nat) (k : ResId) (t : Nat) :
    (w.insertById a k t).2 = if a ≠ k.ty then .panic .wrongType else .unit :=
  apply_ite Prod.snd _ _ _

theorem removeById_abs (w : World) (a : Nat) (k : ResId) :
    (w.removeById a k).1.abs = if a ≠ k.ty then w.abs else upd w.abs k none := by
  by_cases h : a = k.ty
  · rw [if_neg fun e => e h]
    cases hk : w.get k with
    | none =>
      -- nothing to remove, and the map says so
      rw [removeById_absent h hk]
      funext k'
      by_cases e : k' = k
      · rw [e, upd_same]; exact abs_none_iff.mpr hk
      · rw [upd_other _ _ e]
    | some c => rw [removeById_present h hk]; exact abs_eraseCell rfl
  · rw [removeById_of_ne h, if_pos h]

theorem removeById_out (w : World) (a : Nat) (k : ResId) :
    (w.removeById a k).2 = if a ≠ k.ty then .panic .wrongType else
      match w.abs k with | some t => .value t | none => .none := by
  by_cases h : a = k.ty
  · rw [if_neg fun e => e h]
    cases hk : w.get k with
    | none => rw [removeById_absent h hk, abs_none_iff.mpr hk]
    | some c => rw [removeById_present h hk, abs_some hk]
  · rw [removeById_of_ne h, if_pos h]

theorem entryData_abs (w : World) (ty t : Nat) (bv : Bool) :
    (w.entryData ty t bv).abs = if (w.abs ⟨ty, 0⟩).isSome then w.abs else upd w.abs ⟨ty, 0⟩ (some t) := by
  cases hk : w.get ⟨ty, 0⟩ with
  | some c =>
    have ho : (w.abs ⟨ty, 0⟩).isSome = true := by rw [World.abs, hk]; rfl
    rw [entryData_occupied hk, if_pos ho]
    cases bv <;> rfl
  | none =>
    have ho : ¬(w.abs ⟨ty, 0⟩).isSome = true := by rw [World.abs, hk]; nofun
    rw [entryData_vacant hk, if_neg ho]
    exact abs_setCell (c := ⟨ty, t, .free⟩) rfl

theorem entryScoped_abs (w : World) (ty t : Nat) (bv : Bool) :
    (w.entryScoped ty t bv).1.abs = if (w.abs ⟨ty, 0⟩).isSome then w.abs else upd w.abs ⟨ty, 0⟩ (some t) := by
  rw [(entryScoped_same w ty t bv).abs, entryData_abs]

theorem entryScoped_out {w : World} (hw : Inv w) (hg : w.guards = []) (ty t : Nat) (bv : Bool) :
    (w.entryScoped ty t bv).2 = .seen ((w.abs ⟨ty, 0⟩).getD t) := by
  obtain ⟨c, _, _, ht, he⟩ := entryOrInsert_ok hw hg ty t bv
  unfold entryScoped
  rw [he, ht]
  rfl

structure MapOk (w : World) : Prop where
  typed : Typed w
  -- `eraseCell` removes every entry of `k`, and only the first, the one `lookupCell` finds, is
  -- accounted for as returned
  keys : KeysNodup w
  linear : Linear w

theorem SameData.mapOk {w w' : World} (h : SameData w w') (hm : MapOk w) : MapOk w' :=
  ⟨h.typed hm.typed, (congrArg List.Nodup h.keys).mpr hm.keys, h.linear hm.linear⟩

/-- `HashMap::insert` of a new value of the type the id names: the value has come into existence, a
replaced one is dropped -/
theorem MapOk.put {w : World} (hm : MapOk w) {k : ResId} {c : Cell} (hc : c.ty = k.ty) :
    MapOk { w with cells := setCell k c w.cells, created := w.created ++ [c.token],
                   dropped := w.dropped ++ ((w.get k).map (·.token)).toList } := by
  refine ⟨?_, keys_setCell_nodup hm.keys, ?_⟩
  · intro k' c' h
    by_cases hk : k' = k
    · subst hk; rw [get_def, lookup_setCell_same] at h; cases h; exact hc
    · rw [get_def, lookup_setCell_other hk] at h; exact hm.typed k' c' h
  · intro x
    have := hm.linear x
    have hc := count_tokens_setCell k c w.cells x
    simp only [World.tokens, List.count_append, get_def] at this hc ⊢
    omega

/-- `HashMap::remove`: the value goes to the caller -/
theorem MapOk.take {w : World} (hm : MapOk w) {k : ResId} {c : Cell} (hk : w.get k = some c) :
    MapOk { w with cells := eraseCell k w.cells, returned := w.returned ++ [c.token] } := by
  refine ⟨fun k' c' h => hm.typed k' c' (lookup_eraseCell_some h), keys_eraseCell_nodup hm.keys, ?_⟩
  · intro x
    have := hm.linear x
    have hc := count_tokens_eraseCell hm.keys hk x
    simp only [World.tokens, List.count_append] at this hc ⊢
    omega

/-- a value handed in and dropped unused -/
theorem MapOk.discard {w : World} (hm : MapOk w) (t : Nat) :
    MapOk { w with created := w.created ++ [t], dropped := w.dropped ++ [t] } := by
  refine ⟨hm.typed, hm.keys, fun x => ?_⟩
  show w.tokens.count x + w.returned.count x + (w.dropped ++ [t]).count x = (w.created ++ [t]).count x
  rw [List.count_append, List.count_append, ← Nat.add_assoc, hm.linear x]

theorem insertById_mapOk {w : World} (hm : MapOk w) (a : Nat) (k : ResId) (t : Nat) : MapOk (w.insertById a k t).1 := by
  by_cases h : a = k.ty
  · rw [insertById_of_eq h]; exact hm.put (c := ⟨a, t, .free⟩) h
  · rw [insertById_of_ne h]; exact hm.discard t

theorem removeById_mapOk {w : World} (hm : MapOk w) (a : Nat) (k : ResId) : MapOk (w.removeById a k).1 := by
  by_cases h : a = k.ty
  · cases hk : w.get k with
    | none => rw [removeById_absent h hk]; exact hm
    | some c => rw [removeById_present h hk]; exact hm.take hk
  · rw [removeById_of_ne h]; exact hm

theorem entryScoped_mapOk {w : World} (hm : MapOk w) (ty t : Nat) (bv : Bool) : MapOk (w.entryScoped ty t bv).1 := by
  apply (entryScoped_same w ty t bv).mapOk
  cases hk : w.get ⟨ty, 0⟩ with
  | some c =>
    rw [entryData_occupied hk]
    cases bv
    · exact hm
    · exact hm.discard t
  | none =>
    rw [entryData_vacant hk]
    have := hm.put (k := ⟨ty, 0⟩) (c := ⟨ty, t, .free⟩) rfl
    rwa [hk, Option.map_none, Option.toList_none, List.append_nil] at this

theorem setup_mapOk {w : World} (hm : MapOk w) (items : List SdItem) (toks : List Nat) : MapOk (w.setup items toks).1 :=
  setup_induction (P := MapOk) (fun _ _ _ h => entryScoped_mapOk h _ _ _) hm items toks

theorem exec_mapOk {w : World} (hm : MapOk w) (items : List SdItem) (toks : List Nat) : MapOk (w.exec items toks).1 :=
  (exec_same w items toks).mapOk (setup_mapOk hm items toks)

theorem step_mapOk {w : World} (hm : MapOk w) (op : Op) : MapOk (w.step op).1 := by
  cases hmut : op.isMut with
  | false => exact (step_same_of_not_mut w op hmut).mapOk hm
  | true =>
    apply step_mut_state hmut
    case insertById => exact insertById_mapOk hm
    case removeById => exact removeById_mapOk hm
    case entry => exact entryScoped_mapOk hm
    case setup => exact setup_mapOk hm
    case exec => exact exec_mapOk hm
    case discard => exact hm.discard
    case same => exact hm

theorem run_mapOk {w : World} (hm : MapOk w) (ops : List Op) : MapOk (w.run ops) := by
  induction ops generalizing w with
  | nil => exact hm
  | cons op ops ih => exact ih (step_mapOk hm op)

theorem mapOk_empty : MapOk {} where
  typed _ _ h := nomatch h
  keys := List.nodup_nil
  linear _ := rfl

end Shred
