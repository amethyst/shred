import ShredModel.Lemmas.NestedTop
/-!
# Concrete inhabitants of the hypothesis bundles (non-vacuity)

`exScenario`: three registrations with a dependency and a barrier, one thread-local system.
`exLevel`: an outer dispatcher with a plain system, a batch (two inner systems in two stages,
dispatched twice) and a thread-local system; the body of the batch is obtained from the inner
dispatcher as a level of its own (`exInner`, `Level.body`).
-/
namespace Shred

def exOps : List SOp :=
  [.insert [] ⟨[], [⟨0, 0⟩], 3⟩, .insert [0] ⟨[⟨0, 0⟩], [], 1⟩, .barrier, .insert [] ⟨[], [⟨1, 0⟩], 5⟩]

def exD : Nat → Decl
  | 0 => ⟨[], [⟨0, 0⟩], 3⟩
  | 1 => ⟨[⟨0, 0⟩], [], 1⟩
  | _ => ⟨[], [⟨1, 0⟩], 5⟩

def exDep : Nat → List Nat
  | 1 => [0]
  | _ => []

theorem exConsistent : Consistent exD exDep 0 exOps :=
  -- per registration: its declaration, its dependency list, the dependencies are earlier registrations
  ⟨rfl, rfl, by decide,   -- 0
    rfl, rfl, by decide,  -- 1, which depends on 0
    rfl, rfl, by decide,  -- 2, behind the barrier (a barrier asks nothing)
    trivial⟩

def exScenario : Scenario where
  ops := exOps
  D := exD
  Dep := exDep
  consistent := exConsistent
  tl := [7]
  tl_nodup := by simp
  tl_fresh := by
    intro t ht
    simp at ht; subst ht
    decide

/-- the layout of the example: the dependent system behind its dependency, the third system
behind the barrier -/
example : exScenario.final.b.stages = [[[0]], [[1]], [[2]]] ∧ exScenario.final.n = 3 ∧
    exScenario.final.bars = [2] := by decide +kernel

/-- declarations for the nested example: 0 writes r0; batch 1 = union of 5 (writes r1) and 6 (reads r1) -/
def exDL : SysTag → Decl
  | 0 => ⟨[], [⟨0, 0⟩], 1⟩
  | 1 => ⟨[⟨1, 0⟩], [⟨1, 0⟩], 5⟩
  | 5 => ⟨[], [⟨1, 0⟩], 1⟩
  | 6 => ⟨[⟨1, 0⟩], [], 1⟩
  | _ => ⟨[], [], 1⟩

theorem exInnerIso : IsoTable exDL [[[5]], [[6]]] := by
  intro st hst i j gi gj hi hj hij
  -- each stage holds one group
  have hlen : st.length = 1 := by
    rcases List.mem_cons.mp hst with rfl | hst
    · rfl
    · cases List.mem_singleton.mp hst; rfl
  have hi0 : i = 0 := Nat.lt_one_iff.mp (hlen ▸ (List.getElem?_eq_some_iff.mp hi).1)
  have hj0 : j = 0 := Nat.lt_one_iff.mp (hlen ▸ (List.getElem?_eq_some_iff.mp hj).1)
  exact absurd (hi0.trans hj0.symm) hij

/-- the inner dispatcher of the batch is a level of its own … -/
def exInner : Level exDL where
  stages := [[[5]], [[6]]]
  tl := []
  bs := []
  iso := exInnerIso
  tags := by decide
  bodies := fun _ _ h => by cases h

def exBody : Body := batchBody true [[[5]], [[6]]] [] [] 2

/-- … and so a good body for the batch that declares the union -/
theorem exBodyOK : BodyOK exDL exBody (exDL 1) :=
  exInner.body rfl true 2 _ (by unfold Sub; decide)

def exLevel : Level exDL where
  stages := [[[0], [1]]]
  tl := [2]
  bs := [(1, exBody)]
  iso := by
    intro st hst i j gi gj hi hj hij a ha c hc
    simp only [List.mem_cons, List.not_mem_nil, or_false] at hst
    subst hst
    have key : ¬ conflictsD (exDL 0) (exDL 1) := by simp [conflictsD, exDL]
    match i, j with
    | 0, 0 => exact absurd rfl hij
    | 0, 1 =>
      simp at hi hj; subst hi hj; simp at ha hc; subst ha hc; exact key
    | 1, 0 =>
      simp at hi hj; subst hi hj; simp at ha hc; subst ha hc; exact fun h => key (conflictsD_symm h)
    | 1, 1 => exact absurd rfl hij
    | 0, j + 2 => simp at hj
    | 1, j + 2 => simp at hj
    | i + 2, _ => simp at hi
  tags := by decide
  bodies := by
    intro t b h
    simp only [findBody] at h
    split at h
    · rename_i ht; cases h; rw [← ht]; exact exBodyOK
    · cases h

/-- the nested example's task has the batch scope with two iterations of the inner dispatcher -/
example : (exLevel.task true []).sys =
    [[0], [1], [1, 0, 5], [1, 0, 6], [1, 1, 5], [1, 1, 6], [2]] := by decide +kernel

end Shred
