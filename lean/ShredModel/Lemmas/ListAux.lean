/-!
# General facts about lists

Facts about `List.modify`, `map`, `flatMap`, folds of `erase`, splittings of an append and the like
that several parts of the development use and that core Lean does not have in this form. Nothing
here mentions the model.
-/
namespace Shred

theorem mem_modify {α} {l : List α} {k : Nat} {f : α → α} {x : α} (hx : x ∈ l.modify k f) :
    x ∈ l ∨ ∃ a, l[k]? = some a ∧ x = f a := by
  obtain ⟨j, hj⟩ := List.mem_iff_getElem?.mp hx
  by_cases hkj : k = j
  · subst hkj
    rw [List.getElem?_modify] at hj
    cases hl : l[k]? with
    | none => simp [hl] at hj
    | some a => simp [hl] at hj; exact Or.inr ⟨a, rfl, hj.symm⟩
  · rw [List.getElem?_modify_ne _ _ hkj] at hj
    exact Or.inl (List.mem_of_getElem? hj)

theorem getElem?_modify_of_some {α} {l : List α} {k : Nat} {f : α → α} {a : α} (h : l[k]? = some a) :
    (l.modify k f)[k]? = some (f a) := by
  rw [List.getElem?_modify_eq, h]; rfl

theorem map_modify {α β} (g : α → β) (u : α → α) (u' : β → β) (h : ∀ a, g (u a) = u' (g a))
    (l : List α) (k : Nat) : (l.modify k u).map g = (l.map g).modify k u' := by
  apply List.ext_getElem?
  intro i
  simp only [List.getElem?_map, List.getElem?_modify]
  cases l[i]? with
  | none => rfl
  | some a => by_cases hk : k = i <;> simp [hk, h]

theorem modify_append_last {β} (st : List β) (e : β) (f : β → β) :
    (st ++ [e]).modify st.length f = st ++ [f e] := by
  induction st with
  | nil => rfl
  | cons x xs ih => simp [List.modify_succ_cons, ih]

theorem count_flatMap_modify {α β} [DecidableEq β] (h : α → List β) (f : α → α) (c : Nat) (x : β)
    (l : List α) (k : Nat) (a : α) (hk : l[k]? = some a) (hc : (h (f a)).count x = (h a).count x + c) :
    ((l.modify k f).flatMap h).count x = (l.flatMap h).count x + c := by
  obtain ⟨hlt, rfl⟩ := List.getElem?_eq_some_iff.mp hk
  rw [List.modify_eq_take_cons_drop hlt]
  conv => rhs; rw [← List.take_append_drop k l, List.drop_eq_getElem_cons hlt]
  simp only [List.flatMap_append, List.flatMap_cons, List.count_append, hc]
  omega

theorem sum_map_le {α} (f : α → Nat) (l : List α) (m : Nat) (h : ∀ x, x ∈ l → f x ≤ m) :
    (l.map f).sum ≤ l.length * m := by
  induction l with
  | nil => simp
  | cons x xs ih =>
    have h1 := h x List.mem_cons_self
    have h2 := ih fun y hy => h y (List.mem_cons_of_mem _ hy)
    rw [List.map_cons, List.sum_cons, List.length_cons, Nat.add_mul]
    omega

theorem getElem?_map_of_some {α β} (f : α → β) {l : List α} {i : Nat} {a : α} (h : l[i]? = some a) :
    (l.map f)[i]? = some (f a) := by
  rw [List.getElem?_map, h]; rfl

theorem exists_of_getElem?_map {α β} {f : α → β} {l : List α} {i : Nat} {y : β} (h : (l.map f)[i]? = some y) :
    ∃ x, l[i]? = some x ∧ f x = y := by
  rw [List.getElem?_map] at h; exact Option.map_eq_some_iff.mp h

theorem getD_map {α β} (l : List α) (f : α → β) (i : Nat) (d : β) (a : α) (h : l[i]? = some a) :
    (l.map f).getD i d = f a := by
  rw [List.getD, getElem?_map_of_some f h]; rfl

theorem any_congr_mem {α} {l : List α} {p q : α → Bool} (h : ∀ x, x ∈ l → p x = q x) :
    l.any p = l.any q := by
  rw [Bool.eq_iff_iff]
  simp only [List.any_eq_true]
  constructor
  · rintro ⟨x, hx, hp⟩; exact ⟨x, hx, by rw [← h x hx]; exact hp⟩
  · rintro ⟨x, hx, hq⟩; exact ⟨x, hx, by rw [h x hx]; exact hq⟩

theorem mem_map_inj {α β} {f : α → β} (hf : ∀ a b, f a = f b → a = b) {x : α} {l : List α} : f x ∈ l.map f ↔ x ∈ l :=
  ⟨fun h => by obtain ⟨y, hy, he⟩ := List.mem_map.mp h; rw [← hf _ _ he]; exact hy, List.mem_map_of_mem⟩

theorem erase_map_inj {α β} [DecidableEq α] [DecidableEq β] {f : α → β} (hf : ∀ a b, f a = f b → a = b)
    (d : List α) (x : α) : (d.map f).erase (f x) = (d.erase x).map f := by
  induction d with
  | nil => rfl
  | cons a d ih =>
    by_cases hax : a = x
    · subst hax; simp
    · have : f a ≠ f x := fun e => hax (hf _ _ e)
      rw [List.map_cons, List.erase_cons_tail (by simpa using this), List.erase_cons_tail (by simpa using hax),
        List.map_cons, ih]

theorem mem_foldl_erase {α} [DecidableEq α] {x : α} (ids dep : List α) (hx : x ∈ dep) :
    x ∈ ids.foldl (fun d id => d.erase id) dep ∨ x ∈ ids := by
  induction ids generalizing dep with
  | nil => exact Or.inl hx
  | cons i ids ih =>
    by_cases hxi : x = i
    · subst hxi; exact Or.inr List.mem_cons_self
    · exact (ih (dep.erase i) ((List.mem_erase_of_ne hxi).mpr hx)).imp_right (List.mem_cons_of_mem i)

theorem foldl_erase_sub {α} [DecidableEq α] {x : α} (ids dep : List α)
    (hx : x ∈ ids.foldl (fun d id => d.erase id) dep) : x ∈ dep := by
  induction ids generalizing dep with
  | nil => exact hx
  | cons i ids ih => exact List.mem_of_mem_erase (ih (dep.erase i) hx)

theorem not_mem_foldl_erase {α} [DecidableEq α] {x : α} (ids dep : List α) (h : dep.Nodup) (hx : x ∈ ids) :
    x ∉ ids.foldl (fun d id => d.erase id) dep := by
  induction ids generalizing dep with
  | nil => cases hx
  | cons i ids ih =>
    rcases List.mem_cons.mp hx with rfl | hx'
    · exact fun hmem => ((h.mem_erase_iff).mp (foldl_erase_sub ids _ hmem)).1 rfl
    · exact ih (dep.erase i) (h.erase i) hx'

theorem flatMap_flatten {α β} (l : List (List α)) (h : α → List β) :
    l.flatten.flatMap h = l.flatMap fun g => g.flatMap h := by
  rw [List.flatten_eq_flatMap, List.flatMap_assoc]; rfl

theorem nodup_flatMap_of_key {α β} {l : List α} {f : α → List β} (key : β → α) (hl : l.Nodup)
    (hf : ∀ a, (f a).Nodup) (hk : ∀ a b, b ∈ f a → key b = a) : (l.flatMap f).Nodup :=
  List.pairwise_flatMap.mpr ⟨fun a _ => hf a,
    hl.imp fun hne x hx y hy hxy => hne (by rw [← hk _ _ hx, hxy, hk _ _ hy])⟩

theorem foldl_append_flatMap {α β} (f : α → List β) (l : List α) (acc : List β) :
    l.foldl (fun a x => a ++ f x) acc = acc ++ l.flatMap f := by
  rw [List.flatMap_def]; exact List.foldl_append_eq_append

theorem count_flatten_of_forall {α} [BEq α] {a : α} {ls : List (List α)} (h : ∀ l, l ∈ ls → l.count a = 1) :
    ls.flatten.count a = ls.length := by
  induction ls with
  | nil => rfl
  | cons l ls ih =>
    rw [List.flatten_cons, List.count_append, h l List.mem_cons_self,
      ih fun l' hl' => h l' (List.mem_cons_of_mem _ hl'), List.length_cons, Nat.add_comm]

theorem append_split {α} {la lb l1 l2 : List α} {e : α} (h : la ++ lb = l1 ++ e :: l2) (he : e ∉ la) :
    ∃ m, l1 = la ++ m ∧ lb = m ++ e :: l2 := by
  rcases List.append_eq_append_iff.mp h with ⟨m, h1, h2⟩ | ⟨m, h1, h2⟩
  · exact ⟨m, h1, h2⟩
  · -- la = l1 ++ m, e :: l2 = m ++ lb : then m = [] (else e ∈ la)
    cases m with
    | nil => exact ⟨[], by simpa using h1.symm, by simpa using h2.symm⟩
    | cons z m =>
      simp at h2
      obtain ⟨rfl, _⟩ := h2
      exact absurd (by rw [h1]; simp) he

theorem prefix_append_cases {α} {p la lb : List α} (h : p <+: la ++ lb) :
    p <+: la ∨ ∃ m, p = la ++ m ∧ m <+: lb := by
  obtain ⟨r, hr⟩ := h
  rcases List.append_eq_append_iff.mp hr with ⟨m, h1, h2⟩ | ⟨m, h1, h2⟩
  · exact Or.inl ⟨m, h1.symm⟩
  · exact Or.inr ⟨m, h1, ⟨r, h2.symm⟩⟩

theorem pairwise_split {α} {R : α → α → Prop} {l p q : List α} {c : α} (h : l.Pairwise R)
    (e : l = p ++ c :: q) : ∀ a, a ∈ p → R a c :=
  fun a ha => (List.pairwise_append.mp (e ▸ h)).2.2 a ha c List.mem_cons_self

theorem getElem?_concat {α} (l : List α) (a : α) (i : Nat) :
    (l ++ [a])[i]? = if i = l.length then some a else l[i]? := by
  rw [List.getElem?_append]
  rcases Nat.lt_trichotomy i l.length with h | h | h
  · rw [if_pos h, if_neg (Nat.ne_of_lt h)]
  · subst h
    rw [if_neg (Nat.lt_irrefl _), if_pos rfl, Nat.sub_self]
    rfl
  · rw [if_neg (Nat.lt_asymm h), if_neg (Nat.ne_of_gt h), List.getElem?_eq_none (Nat.le_of_lt h)]
    exact List.getElem?_eq_none (Nat.sub_pos_of_lt h)

theorem getElem?_concat_eq_some {α} (l : List α) (a x : α) (i : Nat) :
    (l ++ [a])[i]? = some x ↔ l[i]? = some x ∨ i = l.length ∧ a = x := by
  rw [getElem?_concat]
  split
  · next h =>
    subst h
    rw [List.getElem?_eq_none (Nat.le_refl _)]
    exact ⟨fun e => .inr ⟨rfl, Option.some.inj e⟩, fun e => e.elim nofun fun e' => congrArg some e'.2⟩
  · next h => exact ⟨.inl, fun e => e.resolve_right fun e' => h e'.1⟩

theorem drop_eq_append_cons {α} {l pre rest : List α} {i : Nat} {x : α} (h : l.drop i = pre ++ x :: rest) :
    l[i + pre.length]? = some x ∧ l.drop (i + pre.length + 1) = rest := by
  constructor
  · rw [← List.getElem?_drop, h, List.getElem?_append_right (Nat.le_refl _), Nat.sub_self]; rfl
  · rw [Nat.add_assoc, ← List.drop_drop, h, ← List.drop_drop, List.drop_left]; rfl

/-- The first element a filter keeps, with what it skipped before it. Core's `List.filter_eq_cons_iff` says
the same and rests on `Classical.choice`; this proof does not. -/
theorem filter_eq_cons {α} {p : α → Bool} {a : α} {as l : List α} (h : l.filter p = a :: as) :
    ∃ pre rest, l = pre ++ a :: rest ∧ (∀ x ∈ pre, p x = false) ∧ p a = true ∧ rest.filter p = as := by
  induction l with
  | nil => cases h
  | cons x xs ih =>
    rw [List.filter_cons] at h
    cases hp : p x with
    | true =>
      -- `x` is kept: it is `a`, and nothing was skipped
      rw [hp, if_pos rfl] at h
      injection h with hx hxs
      subst hx
      exact ⟨[], xs, rfl, nofun, hp, hxs⟩
    | false =>
      -- `x` is skipped: one more in front of what `xs` skips
      rw [hp, if_neg Bool.false_ne_true] at h
      obtain ⟨pre, rest, hl, hpre, ha, hrest⟩ := ih h
      exact ⟨x :: pre, rest, congrArg (x :: ·) hl, List.forall_mem_cons.mpr ⟨hp, hpre⟩, ha, hrest⟩

/-- core's `List.take_subset_take_left` rests on `Classical.choice` -/
theorem mem_take_of_le {α} {l : List α} {i j : Nat} {x : α} (h : i ≤ j) (hx : x ∈ l.take i) :
    x ∈ l.take j := by
  rw [← Nat.min_eq_left h, ← List.take_take] at hx
  exact List.mem_of_mem_take hx

/-- `count` is `1` below `n` and `0` from `n` on: the list holds exactly the numbers below `n` … -/
theorem mem_iff_of_count_lt {l : List Nat} {n : Nat} (h : ∀ x, l.count x = if x < n then 1 else 0) (x : Nat) :
    x ∈ l ↔ x < n := by
  rw [← List.count_pos_iff, h x]
  split
  · next hx => exact iff_of_true Nat.one_pos hx
  · next hx => exact iff_of_false (Nat.lt_irrefl 0) hx

/-- … each once -/
theorem nodup_of_count_lt {l : List Nat} {n : Nat} (h : ∀ x, l.count x = if x < n then 1 else 0) : l.Nodup := by
  rw [List.nodup_iff_count]
  intro x
  rw [h x]
  split
  · exact Nat.le_refl 1
  · exact Nat.zero_le 1

end Shred
