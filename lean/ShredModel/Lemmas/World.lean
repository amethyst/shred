import ShredModel.Model.World
/-!
# The borrow invariant of `World` (C08)

`Inv`: the counter of each cell agrees with the live guards on it counted in the guard table (`BorrowOk`, read per
state of the cell). It is kept by the two primitive moves, a borrow granted (`World.acquire`) and a guard dropped
(`World.release`), which in succession restore both tables (`acquire_release`).
-/
namespace Shred
open World

@[simp] theorem lookup_setCell_same {k : ResId} {c : Cell} {l : List (ResId × Cell)} :
    lookupCell k (setCell k c l) = some c := by
  induction l with
  | nil => simp [setCell, lookupCell]
  | cons p rest ih =>
    by_cases h : p.1 = k <;> simp [setCell, lookupCell, h, ih]

theorem lookup_setCell_other {k k' : ResId} {c : Cell} {l : List (ResId × Cell)} (h : k' ≠ k) :
    lookupCell k' (setCell k c l) = lookupCell k' l := by
  induction l with
  | nil => simp [setCell, lookupCell, Ne.symm h]
  | cons p rest ih =>
    by_cases h1 : p.1 = k
    · simp [setCell, lookupCell, h1, Ne.symm h]
    · by_cases h2 : p.1 = k'
      · simp [setCell, lookupCell, h2, h]
      · simp only [setCell, h1, if_false, lookupCell, h2, ih]

@[simp] theorem lookup_eraseCell_same (k : ResId) (l : List (ResId × Cell)) :
    lookupCell k (eraseCell k l) = none := by
  induction l with
  | nil => simp [eraseCell, lookupCell]
  | cons p rest ih =>
    by_cases h : p.1 = k <;> simp [eraseCell, lookupCell, h, ih]

theorem lookup_eraseCell_other {k k' : ResId} {l : List (ResId × Cell)} (h : k' ≠ k) :
    lookupCell k' (eraseCell k l) = lookupCell k' l := by
  induction l with
  | nil => simp [eraseCell, lookupCell]
  | cons p rest ih =>
    by_cases h1 : p.1 = k
    · have : p.1 ≠ k' := by rw [h1]; exact Ne.symm h
      simp only [eraseCell, h1, if_true, lookupCell, ih]
      rw [← h1, if_neg this]
    · by_cases h2 : p.1 = k'
      · simp [eraseCell, lookupCell, h2, h]
      · simp only [eraseCell, h1, if_false, lookupCell, h2, ih]

theorem setCell_self {k : ResId} {c : Cell} {l : List (ResId × Cell)} (h : lookupCell k l = some c) :
    setCell k c l = l := by
  induction l with
  | nil => simp [lookupCell] at h
  | cons p rest ih =>
    by_cases h1 : p.1 = k
    · simp [lookupCell, h1] at h
      simp only [setCell, h1, if_true]
      rw [← h1, ← h]
    · simp [lookupCell, h1] at h
      simp [setCell, h1, ih h]

@[simp] theorem setCell_setCell (k : ResId) (c c' : Cell) (l : List (ResId × Cell)) :
    setCell k c (setCell k c' l) = setCell k c l := by
  induction l with
  | nil => simp [setCell]
  | cons p rest ih =>
    by_cases h1 : p.1 = k <;> simp [setCell, h1, ih]

theorem lookup_setCell_cases {k r : ResId} {c c' : Cell} {l : List (ResId × Cell)}
    (h : lookupCell r (setCell k c l) = some c') : lookupCell r l = some c' ∨ c' = c := by
  by_cases hr : r = k
  · subst hr; rw [lookup_setCell_same] at h; exact Or.inr (Option.some.inj h).symm
  · rw [lookup_setCell_other hr] at h; exact Or.inl h

theorem lookup_eraseCell_some {k r : ResId} {c : Cell} {l : List (ResId × Cell)}
    (h : lookupCell r (eraseCell k l) = some c) : lookupCell r l = some c := by
  by_cases hr : r = k
  · rw [hr, lookup_eraseCell_same] at h; cases h
  · rwa [lookup_eraseCell_other hr] at h

theorem get_def (w : World) (k : ResId) : w.get k = lookupCell k w.cells := rfl

/-- number of live guards on `r` of kind `x` (`true`: exclusive) -/
def World.nLive (w : World) (r : ResId) (x : Bool) : Nat := (w.guards.map (·.2)).count ⟨r, x⟩

theorem findGuard_eq_find? (h : Nat) (gs : List (Nat × Guard)) :
    findGuard h gs = (gs.find? (·.1 = h)).map (·.2) := by
  induction gs with
  | nil => rfl
  | cons p rest ih => by_cases hp : p.1 = h <;> simp [findGuard, hp, ih]

theorem dropGuard_eq_eraseP (h : Nat) (gs : List (Nat × Guard)) : dropGuard h gs = gs.eraseP (·.1 = h) := by
  induction gs with
  | nil => rfl
  | cons p rest ih => by_cases hp : p.1 = h <;> simp [dropGuard, hp, ih]

theorem findGuard_mem {h : Nat} {g : Guard} {gs : List (Nat × Guard)} (hf : findGuard h gs = some g) :
    (h, g) ∈ gs := by
  rw [findGuard_eq_find?] at hf
  obtain ⟨p, hp, rfl⟩ := Option.map_eq_some_iff.mp hf
  have := List.find?_some hp
  exact (of_decide_eq_true this : p.1 = h) ▸ List.mem_of_find?_eq_some hp

theorem findGuard_none {h : Nat} {gs : List (Nat × Guard)} (hf : ∀ p ∈ gs, p.1 ≠ h) :
    findGuard h gs = none := by
  rw [findGuard_eq_find?, List.find?_eq_none.mpr fun p hp => by simpa using hf p hp]
  rfl

theorem dropGuard_append_fresh {h : Nat} {g : Guard} {gs : List (Nat × Guard)} (hf : ∀ p ∈ gs, p.1 ≠ h) :
    dropGuard h (gs ++ [(h, g)]) = gs := by
  rw [dropGuard_eq_eraseP, List.eraseP_append_right _ fun p hp => by simpa using hf p hp]
  simp

theorem findGuard_append_fresh {h : Nat} {g : Guard} {gs : List (Nat × Guard)} (hf : ∀ p ∈ gs, p.1 ≠ h) :
    findGuard h (gs ++ [(h, g)]) = some g := by
  rw [findGuard_eq_find?, List.find?_append, List.find?_eq_none.mpr fun p hp => by simpa using hf p hp]
  simp

theorem dropGuard_sublist (h : Nat) (gs : List (Nat × Guard)) : (dropGuard h gs).Sublist gs :=
  dropGuard_eq_eraseP h gs ▸ List.eraseP_sublist

theorem count_dropGuard {h : Nat} {g : Guard} {gs : List (Nat × Guard)} (hf : findGuard h gs = some g)
    (g' : Guard) :
    ((dropGuard h gs).map (·.2)).count g' + (if g = g' then 1 else 0) = (gs.map (·.2)).count g' := by
  induction gs with
  | nil => simp [findGuard] at hf
  | cons p rest ih =>
    by_cases h1 : p.1 = h
    · simp [findGuard, h1] at hf
      simp only [dropGuard, h1, if_true, List.map_cons, List.count_cons, hf]
      by_cases h2 : g = g' <;> simp [h2]
    · simp [findGuard, h1] at hf
      have := ih hf
      simp only [dropGuard, h1, if_false, List.map_cons, List.count_cons]
      omega

/-- the two compatibility conditions of the cell -/
theorem tryBorrow_some_iff (b : Borrow) (excl : Bool) :
    (tryBorrow b excl).isSome ↔ (excl = false ∧ b ≠ .excl) ∨ (excl = true ∧ b = .free) := by
  cases b <;> cases excl <;> simp [tryBorrow]

theorem borrowPanic_ne_absent (f : Form) (b : Borrow) (x : Bool) : borrowPanic f b x ≠ .absent := by
  cases f <;> cases x <;> cases b <;> simp [borrowPanic]

theorem borrowPanic_ne_wrongType (f : Form) (b : Borrow) (x : Bool) : borrowPanic f b x ≠ .wrongType := by
  cases f <;> cases x <;> cases b <;> simp [borrowPanic]

/-- `shared 0` is the one counter value a borrow and its drop do not restore (it does not occur:
`inv_not_shared_zero`) -/
theorem releaseBorrow_tryBorrow {b b' : Borrow} {excl : Bool} (h : tryBorrow b excl = some b')
    (h0 : b ≠ .shared 0) : releaseBorrow b' excl = b := by
  cases b with
  | free => cases excl <;> simp [tryBorrow] at h <;> subst h <;> rfl
  | excl => cases excl <;> simp [tryBorrow] at h
  | shared n =>
    cases excl
    · simp [tryBorrow] at h; subst h
      cases n with
      | zero => exact absurd rfl h0
      | succ n => rfl
    · simp [tryBorrow] at h

/-- what the counter of a cell must say given the numbers of live shared / exclusive guards -/
def BorrowOk : Option Borrow → Nat → Nat → Prop
  | none, s, x => s = 0 ∧ x = 0
  | some .free, s, x => s = 0 ∧ x = 0
  | some (.shared n), s, x => 0 < n ∧ s = n ∧ x = 0
  | some .excl, s, x => s = 0 ∧ x = 1

/-- **the invariant of C08**: every cell is free with no live guard, shared by exactly its `n > 0`
live shared guards, or exclusive with exactly one live guard, which is exclusive; guards on absent
resources do not exist -/
def Inv (w : World) : Prop :=
  ∀ r, BorrowOk ((w.get r).map (·.borrow)) (w.nLive r false) (w.nLive r true)

/-- handles are issued in increasing order and never reused. The proofs rest on the second half:
it makes `nextHandle` fresh (`HandlesOk.fresh`), which `acquire_release` needs; the first half gives
only `HandlesOk.nodup`. An operation added to the model has to keep both. -/
def HandlesOk (w : World) : Prop :=
  (w.guards.map (·.1)).Pairwise (· < ·) ∧ ∀ p ∈ w.guards, p.1 < w.nextHandle

theorem HandlesOk.fresh {w : World} (hw : HandlesOk w) : ∀ p ∈ w.guards, p.1 ≠ w.nextHandle :=
  fun p hp => Nat.ne_of_lt (hw.2 p hp)

theorem HandlesOk.nodup {w : World} (hw : HandlesOk w) : (w.guards.map (·.1)).Nodup :=
  hw.1.imp (fun h => Nat.ne_of_lt h)

theorem nLive_nil {w : World} (h : w.guards = []) (r : ResId) (x : Bool) : w.nLive r x = 0 := by
  simp [World.nLive, h]

theorem inv_not_shared_zero {w : World} (hw : Inv w) {k : ResId} {c : Cell} (h : w.get k = some c) :
    c.borrow ≠ .shared 0 := by
  intro hb
  have := hw k
  rw [h, Option.map_some, hb] at this
  obtain ⟨h0, -⟩ : 0 < 0 ∧ _ := this
  exact Nat.lt_irrefl 0 h0

theorem inv_of_no_guards {w : World} (hg : w.guards = []) :
    Inv w ↔ ∀ r c, w.get r = some c → c.borrow = .free := by
  constructor
  · intro hw r c hc
    have := hw r
    rw [hc, nLive_nil hg, nLive_nil hg] at this
    simp only [Option.map_some] at this
    cases hb : c.borrow with
    | free => rfl
    | shared n =>
      rw [hb] at this
      obtain ⟨hn, h0, -⟩ : 0 < n ∧ 0 = n ∧ 0 = 0 := this
      exact absurd (h0 ▸ hn) (Nat.lt_irrefl 0)
    | excl =>
      rw [hb] at this
      obtain ⟨-, h1⟩ : 0 = 0 ∧ 0 = 1 := this
      cases h1
  · intro h r
    rw [nLive_nil hg, nLive_nil hg]
    cases hc : w.get r with
    | none => exact ⟨rfl, rfl⟩
    | some c => rw [Option.map_some, h r c hc]; exact ⟨rfl, rfl⟩

/-- a `&mut` write, made while no guard is alive: enough that every cell of the new table is a cell
of the old one or free -/
theorem inv_write {w w' : World} (hw : Inv w) (hg : w.guards = []) (hg' : w'.guards = [])
    (h : ∀ r c, w'.get r = some c → w.get r = some c ∨ c.borrow = .free) : Inv w' := by
  rw [inv_of_no_guards hg] at hw
  rw [inv_of_no_guards hg']
  intro r c hc
  exact (h r c hc).elim (hw r c) id

theorem handles_of_nil {w : World} (hg : w.guards = []) : HandlesOk w := by
  simp [HandlesOk, hg]

-- `BorrowOk (some b) s x` is a different conjunction for each state of the counter `b`: it is read
-- after `cases b`, by an `obtain` that says which one.

theorem BorrowOk.tryBorrow_isSome {b : Borrow} {s x : Nat} (h : BorrowOk (some b) s x) (e : Bool) :
    (tryBorrow b e).isSome ↔ x = 0 ∧ (e = true → s = 0) := by
  cases b with
  | free =>
    -- every request is granted, and no guard is alive
    obtain ⟨hs, hx⟩ : s = 0 ∧ x = 0 := h
    cases e <;> exact ⟨fun _ => ⟨hx, fun _ => hs⟩, fun _ => rfl⟩
  | shared n =>
    obtain ⟨hn, hs, hx⟩ : 0 < n ∧ s = n ∧ x = 0 := h
    cases e
    · exact ⟨fun _ => ⟨hx, nofun⟩, fun _ => rfl⟩
    · -- an exclusive request is refused, and `s = n > 0`
      exact ⟨nofun, fun g => absurd (hs ▸ g.2 rfl) (Nat.ne_of_gt hn)⟩
  | excl =>
    -- every request is refused, and `x = 1`
    obtain ⟨-, hx⟩ : s = 0 ∧ x = 1 := h
    cases e <;> exact ⟨nofun, fun g => absurd (hx.symm.trans g.1) Nat.one_ne_zero⟩

theorem BorrowOk.acquire {b b' : Borrow} {e : Bool} {s x : Nat} (h : BorrowOk (some b) s x)
    (hb : tryBorrow b e = some b') :
    BorrowOk (some b') (s + if e then 0 else 1) (x + if e then 1 else 0) := by
  cases b with
  | free =>
    obtain ⟨hs, hx⟩ : s = 0 ∧ x = 0 := h
    cases e <;> cases hb
    · exact ⟨Nat.one_pos, congrArg (· + 1) hs, hx⟩  -- `b' = shared 1`
    · exact ⟨hs, congrArg (· + 1) hx⟩               -- `b' = excl`
  | shared n =>
    obtain ⟨-, hs, hx⟩ : 0 < n ∧ s = n ∧ x = 0 := h
    cases e <;> cases hb
    exact ⟨Nat.succ_pos n, congrArg (· + 1) hs, hx⟩  -- `b' = shared (n + 1)`
  | excl => cases e <;> cases hb

/-- a counter that counts a guard of kind `e` among its guards is exclusive, or shared by `n + 1` -/
theorem BorrowOk.of_counted {b : Borrow} {e : Bool} {s x : Nat}
    (h : BorrowOk (some b) (s + if e then 0 else 1) (x + if e then 1 else 0)) :
    (e = true → b = .excl) ∧ (e = false → ∃ n, b = .shared (n + 1)) := by
  cases b with
  | free =>
    -- counts no guard
    obtain ⟨hs, hx⟩ : s + (if e then 0 else 1) = 0 ∧ x + (if e then 1 else 0) = 0 := h
    cases e
    · exact absurd hs (Nat.succ_ne_zero s)
    · exact absurd hx (Nat.succ_ne_zero x)
  | shared n =>
    -- counts `n > 0` shared guards and no exclusive one
    obtain ⟨hn, -, hx⟩ : 0 < n ∧ s + (if e then 0 else 1) = n ∧ x + (if e then 1 else 0) = 0 := h
    cases e
    · exact ⟨nofun, fun _ => ⟨n - 1, congrArg Borrow.shared (Nat.succ_pred_eq_of_pos hn).symm⟩⟩
    · exact absurd hx (Nat.succ_ne_zero x)
  | excl =>
    -- counts one exclusive guard and no shared one
    obtain ⟨hs, -⟩ : s + (if e then 0 else 1) = 0 ∧ x + (if e then 1 else 0) = 1 := h
    cases e
    · exact absurd hs (Nat.succ_ne_zero s)
    · exact ⟨fun _ => rfl, nofun⟩

theorem BorrowOk.release {b : Borrow} {e : Bool} {s x : Nat}
    (h : BorrowOk (some b) (s + if e then 0 else 1) (x + if e then 1 else 0)) :
    BorrowOk (some (releaseBorrow b e)) s x := by
  cases e with
  | true =>
    obtain rfl := h.of_counted.1 rfl
    obtain ⟨hs, hx⟩ : s + 0 = 0 ∧ x + 1 = 1 := h
    exact ⟨hs, Nat.succ.inj hx⟩
  | false =>
    obtain ⟨n, rfl⟩ := h.of_counted.2 rfl
    obtain ⟨-, hs, hx⟩ : 0 < n + 1 ∧ s + 1 = n + 1 ∧ x + 0 = 0 := h
    cases n with
    | zero => exact ⟨Nat.succ.inj hs, hx⟩  -- the last shared guard: `free`
    | succ n => exact ⟨Nat.succ_pos n, Nat.succ.inj hs, hx⟩

/-- the world after a borrow of `k`, whose cell is `c`, has been granted: the third branch of
`fetchCore` -/
def World.acquire (w : World) (k : ResId) (c : Cell) (excl : Bool) (b' : Borrow) : World :=
  { w with cells := setCell k { c with borrow := b' } w.cells,
           guards := w.guards ++ [(w.nextHandle, ⟨k, excl⟩)],
           nextHandle := w.nextHandle + 1 }

theorem get_acquire_same (w : World) (k : ResId) (c : Cell) (excl : Bool) (b' : Borrow) :
    (w.acquire k c excl b').get k = some { c with borrow := b' } := lookup_setCell_same

theorem get_acquire_other (w : World) {k r : ResId} (c : Cell) (excl : Bool) (b' : Borrow) (h : r ≠ k) :
    (w.acquire k c excl b').get r = w.get r := lookup_setCell_other h

theorem nLive_acquire (w : World) (k r : ResId) (c : Cell) (excl x : Bool) (b' : Borrow) :
    (w.acquire k c excl b').nLive r x = w.nLive r x + if (⟨k, excl⟩ : Guard) = ⟨r, x⟩ then 1 else 0 := by
  simp [World.nLive, World.acquire, List.count_singleton]

section fetch
variable (w : World) (k : ResId) (excl : Bool) (f : Form) (orPanic : Bool)

theorem fetchCore_absent (h : w.get k = none) :
    w.fetchCore k excl f orPanic = (w, if orPanic then .panic .absent else .none) := by
  simp [fetchCore, h]

theorem fetchCore_conflict {c : Cell} (h : w.get k = some c) (hb : tryBorrow c.borrow excl = none) :
    w.fetchCore k excl f orPanic = (w, .panic (borrowPanic f c.borrow excl)) := by
  simp [fetchCore, h, hb]

theorem fetchCore_ok {c : Cell} {b' : Borrow} (h : w.get k = some c) (hb : tryBorrow c.borrow excl = some b') :
    w.fetchCore k excl f orPanic = (w.acquire k c excl b', .guard w.nextHandle c.token) := by
  simp [fetchCore, h, hb, World.acquire]

theorem fetchCore_cases :
    (w.get k = none ∧ w.fetchCore k excl f orPanic = (w, if orPanic then .panic .absent else .none)) ∨
    (∃ c, w.get k = some c ∧ tryBorrow c.borrow excl = none ∧
      w.fetchCore k excl f orPanic = (w, .panic (borrowPanic f c.borrow excl))) ∨
    (∃ c b', w.get k = some c ∧ tryBorrow c.borrow excl = some b' ∧
      w.fetchCore k excl f orPanic = (w.acquire k c excl b', .guard w.nextHandle c.token)) := by
  cases h : w.get k with
  | none => exact .inl ⟨rfl, fetchCore_absent w k excl f orPanic h⟩
  | some c =>
    cases hb : tryBorrow c.borrow excl with
    | none => exact .inr (.inl ⟨c, rfl, hb, fetchCore_conflict w k excl f orPanic h hb⟩)
    | some b' => exact .inr (.inr ⟨c, b', rfl, hb, fetchCore_ok w k excl f orPanic h hb⟩)

end fetch

theorem inv_granted_iff {w : World} (hw : Inv w) {k : ResId} {c : Cell} (hc : w.get k = some c) (e : Bool) :
    (tryBorrow c.borrow e).isSome ↔ w.nLive k true = 0 ∧ (e = true → w.nLive k false = 0) := by
  have := hw k
  rw [hc] at this
  exact this.tryBorrow_isSome e

theorem inv_acquire {w : World} (hw : Inv w) {k : ResId} {c : Cell} {excl : Bool} {b' : Borrow}
    (h : w.get k = some c) (hb : tryBorrow c.borrow excl = some b') : Inv (w.acquire k c excl b') := by
  intro r
  have hr := hw r
  rw [nLive_acquire, nLive_acquire]
  by_cases hrk : r = k
  · subst hrk
    rw [h] at hr
    rw [get_acquire_same]
    have := BorrowOk.acquire hr hb
    cases excl <;> simpa using this
  · have hne : k ≠ r := fun e => hrk e.symm
    rw [get_acquire_other w c excl b' hrk]
    simpa [hne] using hr

theorem handles_acquire {w : World} (hw : HandlesOk w) {k : ResId} {c : Cell} {excl : Bool} {b' : Borrow} :
    HandlesOk (w.acquire k c excl b') := by
  refine ⟨?_, ?_⟩
  · simp only [World.acquire, List.map_append, List.map_cons, List.map_nil, List.pairwise_append]
    refine ⟨hw.1, by simp, ?_⟩
    intro a ha b hb
    simp at hb; subst hb
    obtain ⟨p, hp, rfl⟩ := List.mem_map.mp ha
    exact hw.2 p hp
  · intro p hp
    simp only [World.acquire, List.mem_append, List.mem_singleton] at hp
    rcases hp with hp | rfl
    · exact Nat.lt_succ_of_lt (hw.2 p hp)
    · exact Nat.lt_succ_self _

theorem release_dead {w : World} {h : Nat} (hf : findGuard h w.guards = none) : w.release h = w := by
  simp [release, hf]

theorem release_absent {w : World} {h : Nat} {g : Guard} (hf : findGuard h w.guards = some g)
    (hg : w.get g.key = none) : w.release h = { w with guards := dropGuard h w.guards } := by
  simp [release, hf, hg]

theorem release_live {w : World} {h : Nat} {g : Guard} {c : Cell} (hf : findGuard h w.guards = some g)
    (hg : w.get g.key = some c) :
    w.release h = { w with guards := dropGuard h w.guards,
                           cells := setCell g.key { c with borrow := releaseBorrow c.borrow g.excl } w.cells } := by
  simp [release, hf, hg]

theorem release_guards {w : World} {h : Nat} {g : Guard} (hf : findGuard h w.guards = some g) :
    (w.release h).guards = dropGuard h w.guards := by
  cases hg : w.get g.key with
  | none => rw [release_absent hf hg]
  | some c => rw [release_live hf hg]

theorem nLive_release {w : World} {h : Nat} {g : Guard} (hf : findGuard h w.guards = some g) (r : ResId)
    (x : Bool) : (w.release h).nLive r x + (if g = ⟨r, x⟩ then 1 else 0) = w.nLive r x := by
  unfold World.nLive
  rw [release_guards hf]
  exact count_dropGuard hf ⟨r, x⟩

theorem get_release {w : World} {h : Nat} {g : Guard} {c : Cell} (hf : findGuard h w.guards = some g)
    (hg : w.get g.key = some c) (r : ResId) :
    (w.release h).get r =
      if r = g.key then some { c with borrow := releaseBorrow c.borrow g.excl } else w.get r := by
  rw [release_live hf hg]
  split
  · next e => rw [e]; exact lookup_setCell_same
  · next e => exact lookup_setCell_other e

/-- under the invariant the cell of a live guard exists, and its counter counts that guard beside the
ones that stay when it is dropped -/
theorem inv_live {w : World} (hw : Inv w) {h : Nat} {g : Guard} (hf : findGuard h w.guards = some g) :
    ∃ c, w.get g.key = some c ∧
      BorrowOk (some c.borrow) ((w.release h).nLive g.key false + if g.excl then 0 else 1)
        ((w.release h).nLive g.key true + if g.excl then 1 else 0) := by
  obtain ⟨k, e⟩ := g
  have hk := hw k
  rw [← nLive_release hf k false, ← nLive_release hf k true] at hk
  cases hg : w.get k with
  | none =>
    -- a guard on an absent resource would be counted where the invariant says 0
    rw [hg] at hk
    obtain ⟨h1, h2⟩ : _ + _ = 0 ∧ _ + _ = 0 := hk
    cases e <;> simp at h1 h2
  | some c =>
    rw [hg] at hk
    refine ⟨c, rfl, ?_⟩
    cases e <;> simpa using hk

theorem release_inv {w : World} (hw : Inv w) (h : Nat) : Inv (w.release h) := by
  cases hf : findGuard h w.guards with
  | none => rw [release_dead hf]; exact hw
  | some g =>
    obtain ⟨c, hg, hc⟩ := inv_live hw hf
    intro r
    rw [get_release hf hg]
    by_cases hrk : r = g.key
    · rw [if_pos hrk, hrk]
      exact hc.release
    · have hr := hw r
      rw [← nLive_release hf r false, ← nLive_release hf r true, if_neg fun e => hrk (by rw [e]),
        if_neg fun e => hrk (by rw [e])] at hr
      rwa [if_neg hrk]

theorem release_handles {w : World} (hw : HandlesOk w) (h : Nat) : HandlesOk (w.release h) := by
  have hs := dropGuard_sublist h w.guards
  have key : HandlesOk { w with guards := dropGuard h w.guards } :=
    ⟨hw.1.sublist (hs.map _), fun p hp => hw.2 p (hs.subset hp)⟩
  cases hf : findGuard h w.guards with
  | none => rw [release_dead hf]; exact hw
  | some g =>
    cases hg : w.get g.key with
    | none => rw [release_absent hf hg]; exact key
    | some c => rw [release_live hf hg]; exact ⟨key.1, key.2⟩

/-- the handle counter and the ghost lists may differ -/
structure SameTables (a b : World) : Prop where
  cells : a.cells = b.cells
  guards : a.guards = b.guards

theorem SameTables.refl (w : World) : SameTables w w := ⟨rfl, rfl⟩

theorem SameTables.trans {a b c : World} (h1 : SameTables a b) (h2 : SameTables b c) : SameTables a c :=
  ⟨h1.cells.trans h2.cells, h1.guards.trans h2.guards⟩

theorem SameTables.release {w1 w2 : World} (h : SameTables w2 w1) (x : Nat) :
    SameTables (w2.release x) (w1.release x) := by
  unfold World.release
  rw [h.guards]
  cases findGuard x w1.guards with
  | none => exact h
  | some g =>
    simp only [get_def, h.cells]
    cases lookupCell g.key w1.cells <;> exact ⟨rfl, rfl⟩

theorem releaseAll_append (w : World) (l1 l2 : List Nat) :
    releaseAll w (l1 ++ l2) = releaseAll (releaseAll w l1) l2 := by
  induction l1 generalizing w with
  | nil => rfl
  | cons h t ih => exact ih _

theorem SameTables.releaseAll {w1 w2 : World} (h : SameTables w2 w1) (hs : List Nat) :
    SameTables (releaseAll w2 hs) (releaseAll w1 hs) := by
  induction hs generalizing w1 w2 with
  | nil => exact h
  | cons x t ih => exact ih (h.release x)

theorem acquire_release {w : World} (hw : Inv w) (hh : HandlesOk w) {k : ResId} {c : Cell} {excl : Bool}
    {b' : Borrow} (h : w.get k = some c) (hb : tryBorrow c.borrow excl = some b') :
    SameTables ((w.acquire k c excl b').release w.nextHandle) w := by
  have hf : findGuard w.nextHandle (w.acquire k c excl b').guards = some ⟨k, excl⟩ :=
    findGuard_append_fresh hh.fresh
  rw [release_live hf (get_acquire_same w k c excl b')]
  refine ⟨?_, dropGuard_append_fresh hh.fresh⟩
  show setCell k _ (setCell k _ w.cells) = w.cells
  rw [setCell_setCell]
  apply setCell_self
  rw [← get_def, h, releaseBorrow_tryBorrow hb (inv_not_shared_zero hw h)]

end Shred
