import ShredModel.Lemmas.Zip
/-!
# C10, "in particular": mutually compatible, dependency-free systems share one stage

After a barrier (or on an empty builder) every stage the scan may use starts empty. Systems
registered from there on that are pairwise compatible and have no dependencies are all placed
in the first such stage, one group each — nothing is serialised.
-/
namespace Shred

theorem zPending_nil (sts : List ZStage) : zPending sts [] = [] := by
  unfold zPending
  induction sts with
  | nil => rfl
  | cons st sts ih => simpa [zRemoveIds] using ih

def soloGroup (p : Nat × Decl) : ZGroup := newGroup p.1 p.1 (sortDedup p.2.reads) p.2

theorem resHit_solo_false (d : Decl) (p : Nat × Decl) (h : ¬ conflictsD d p.2) :
    resHit (sortDedup d.reads) d.writes (soloGroup p) = false := by
  rw [← Bool.not_eq_true, resHit, hit_iff]
  intro hc
  apply h
  simp only [soloGroup, newGroup, mem_sortDedup] at hc
  exact hc

section
variable (joinOk : ZStage → Nat → Nat → Bool) (pre : List ZStage)

theorem insert_opens (p : Nat × Decl) :
    ({ barrier := pre.length, stages := pre } : ZB).insert joinOk sortDedup dedup [] p.1 p.1 p.2 =
      { barrier := pre.length, stages := pre ++ [[soloGroup p]] } := by
  -- nothing lies behind the barrier (`drop` at `length` is `[]`), so the scan answers `newStage` at once
  simp only [ZB.insert, ZB.target, List.drop_length, zScan, ZB.place]
  rfl

/-- one more compatible system: it joins the stage that opened after the barrier as a new group -/
theorem insert_compatible (cur : ZStage) (p : Nat × Decl)
    (hp : ∀ g, g ∈ cur → resHit (sortDedup p.2.reads) p.2.writes g = false) :
    ({ barrier := pre.length, stages := pre ++ [cur] } : ZB).insert joinOk sortDedup dedup [] p.1 p.1 p.2 =
      { barrier := pre.length, stages := pre ++ [cur ++ [soloGroup p]] } := by
  have hd : zPrepDep dedup ({ barrier := pre.length, stages := pre ++ [cur] } : ZB) [] = [] := zPending_nil _
  simp only [ZB.insert, ZB.target, hd, List.drop_left', zScan, zVerdict,
    zFindConflict_eq_none_iff.mpr ⟨hp, rfl⟩, ZB.place]
  rw [modify_append_last]
  rfl

end

/-- **C10 ("in particular").** From a builder in which nothing was registered since the last
barrier, registering any list of pairwise compatible, dependency-free systems puts all of
them into one new stage, one group each, for **any** join policy. -/
theorem compatible_share_stage (joinOk : ZStage → Nat → Nat → Bool) (pre : List ZStage) (ds : List (Nat × Decl))
    (hds : ds ≠ []) (hcompat : ds.Pairwise fun p q => ¬ conflictsD p.2 q.2) :
    ds.foldl (fun b p => b.insert joinOk sortDedup dedup [] p.1 p.1 p.2) ({ barrier := pre.length, stages := pre } : ZB) =
      { barrier := pre.length, stages := pre ++ [ds.map soloGroup] } := by
  cases ds with
  | nil => exact absurd rfl hds
  | cons p ds =>
    rw [List.foldl_cons, insert_opens]
    suffices ∀ (rest done : List (Nat × Decl)), (done ++ rest).Pairwise (fun p q => ¬ conflictsD p.2 q.2) →
        rest.foldl (fun b p => b.insert joinOk sortDedup dedup [] p.1 p.1 p.2)
          ({ barrier := pre.length, stages := pre ++ [done.map soloGroup] } : ZB) =
          { barrier := pre.length, stages := pre ++ [(done ++ rest).map soloGroup] } from
      this ds [p] hcompat
    intro rest
    induction rest with
    | nil => intro done _; rw [List.append_nil]; rfl
    | cons q rest ih =>
      intro done hpw
      rw [List.foldl_cons, insert_compatible, ← List.map_singleton (f := soloGroup), ← List.map_append,
        ih (done ++ [q]) (by rwa [List.append_assoc]), List.append_assoc]
      · rfl
      · intro g hg
        obtain ⟨r, hr, rfl⟩ := List.mem_map.mp hg
        exact resHit_solo_false q.2 r fun hc =>
          (List.pairwise_append.mp hpw).2.2 r hr q List.mem_cons_self (conflictsD_symm hc)

end Shred
