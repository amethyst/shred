import ShredModel.Lemmas.PAccept
/-!
# Dispatch with panicking systems (C14)

`PTraces pan t l o`: `l` is a possible event sequence of `t` when exactly the instances in
`pan` panic inside `run`; `o = true` iff a panic leaves `t`. A panicking leaf emits `F s`,
`P s` (`P`: unwound, guards dropped). A `seq` stops after a panicking child. At a `par` both
children run to their own end (rayon's `join` waits for the sibling before re-raising).
A batch whose body panics is unwound itself (`P s`).

Every such execution is a run of the driver's acceptor with the same outcome (`ptraces_steps`,
`ptraces_run`): the acceptor raises no false alarm on behaviour this specification allows, and what
holds of the acceptor's runs holds of the specification's executions.
-/
namespace Shred
variable {ι : Type} [DecidableEq ι]

inductive PTraces (pan : ι → Prop) : Task ι → List (PEv ι) → Bool → Prop
  | nil : PTraces pan .nil [] false
  | leafOk {s} : ¬ pan s → PTraces pan (.leaf s) [.F s, .D s] false
  | leafPanic {s} : pan s → PTraces pan (.leaf s) [.F s, .P s] true
  | seqOk {a b la lb o} : PTraces pan a la false → PTraces pan b lb o → PTraces pan (.seq a b) (la ++ lb) o
  | seqPanic {a b la} : PTraces pan a la true → PTraces pan (.seq a b) la true
  | par {a b la lb l oa ob} : PTraces pan a la oa → PTraces pan b lb ob → Shuffle la lb l →
      PTraces pan (.par a b) l (oa || ob)
  | scopeOk {s body l} : PTraces pan body l false → PTraces pan (.scope s body) (.F s :: l ++ [.D s]) false
  | scopePanic {s body l} : PTraces pan body l true → PTraces pan (.scope s body) (.F s :: l ++ [.P s]) true

variable {pan : ι → Prop}

theorem panicked_iff {t : Task ι} {l : List (PEv ι)} {o : Bool} (h : PTraces pan t l o) :
    o = true ↔ ∃ s, PEv.P s ∈ l := by
  induction h with
  | nil | leafOk _ | leafPanic _ | scopePanic _ _ => simp
  | @seqOk a b la lb o _ _ iha ihb =>
    -- the first part ended without panic: nothing was unwound in it
    have hna : ¬ ∃ s, PEv.P s ∈ la := fun h => Bool.false_ne_true (iha.mpr h)
    simp only [ihb, List.mem_append, exists_or, hna, false_or]
  | seqPanic _ iha => exact iha
  | par _ _ hs iha ihb => simp only [Bool.or_eq_true, iha, ihb, hs.mem_iff, exists_or]
  | @scopeOk s body l _ ih =>
    have hn : ¬ ∃ s, PEv.P s ∈ l := fun h => Bool.false_ne_true (ih.mpr h)
    simpa using hn

theorem panic_source {t : Task ι} {l : List (PEv ι)} {o : Bool} (h : PTraces pan t l o) :
    o = true → ∃ s, pan s ∧ PEv.P s ∈ l := by
  induction h with
  | nil => intro h; cases h
  | leafOk _ => intro h; cases h
  | @leafPanic s hp => intro _; exact ⟨s, hp, by simp⟩
  | seqOk _ _ _ ihb =>
    intro h
    obtain ⟨s, hp, hs⟩ := ihb h
    exact ⟨s, hp, List.mem_append_right _ hs⟩
  | seqPanic _ iha => exact iha
  | @par a b la lb l oa ob _ _ hs iha ihb =>
    intro h
    rw [Bool.or_eq_true] at h
    rcases h with h | h
    · obtain ⟨s, hp, hs'⟩ := iha h
      exact ⟨s, hp, hs.mem_iff.mpr (Or.inl hs')⟩
    · obtain ⟨s, hp, hs'⟩ := ihb h
      exact ⟨s, hp, hs.mem_iff.mpr (Or.inr hs')⟩
  | scopeOk _ _ => intro h; cases h
  | scopePanic _ ih =>
    intro _
    obtain ⟨s, hp, hs⟩ := ih rfl
    exact ⟨s, hp, by simp [hs]⟩

/-!
The converse of the decomposition lemmas of `Lemmas/PAccept.lean`: runs of the parts give a run of
the whole — for a `par` provided the two sides have no instance in common, because the acceptor
offers every event to the left side first.
-/

open PR

theorem insts_steps_sub {r : PR ι} {l : List (PEv ι)} {r' : PR ι} (h : steps r l = some r') :
    ∀ x, x ∈ insts r' → x ∈ insts r := (runs_of_steps h).insts_sub

theorem steps_one {r r' : PR ι} {e : PEv ι} (h : deriv r e = some r') : steps r [e] = some r' :=
  steps_cons.mpr ⟨r', h, rfl⟩

theorem PR.deriv_sys {r r' : PR ι} {e : PEv ι} (h : deriv r e = some r') : e.sys ∈ insts r :=
  (runs_of_steps (steps_one h)).ev_sys e (.head _)

/-- a run of a part is a run of the whole, inside any frame `C` that passes single steps through -/
theorem steps_frame {C : PR ι → PR ι} (hC : ∀ {r e r1}, deriv r e = some r1 → deriv (C r) e = some (C r1))
    {r r' : PR ι} {l : List (PEv ι)} (h : steps r l = some r') : steps (C r) l = some (C r') := by
  induction l generalizing r with
  | nil => cases h; rfl
  | cons e l ih =>
    obtain ⟨r1, hd, hs⟩ := steps_cons.mp h
    exact steps_cons.mpr ⟨C r1, hC hd, ih hs⟩

theorem steps_seq_left {a b : PR ι} {la : List (PEv ι)} {a' : PR ι} (h : steps a la = some a') :
    steps (.seq a b) la = some (.seq a' b) :=
  steps_frame (C := (.seq · b)) (fun hd => by simp only [deriv, running_of_deriv hd, hd, Option.map_some]) h

theorem steps_seq_right {a b : PR ι} (ha : status a = .ok) {lb : List (PEv ι)} {b' : PR ι}
    (h : steps b lb = some b') : steps (.seq a b) lb = some (.seq a b') :=
  steps_frame (C := (.seq a ·)) (fun hd => by simp only [deriv, ha, hd, Option.map_some]) h

theorem steps_scope {s : ι} {body : PR ι} {lb : List (PEv ι)} {b' : PR ι} (h : steps body lb = some b') :
    steps (.scope s body) (.F s :: lb) = some (.scopeOpen s b') :=
  steps_cons.mpr ⟨_, by simp only [deriv, ↓reduceIte],
    steps_frame (C := (.scopeOpen s ·)) (fun hd => by simp only [deriv, hd]) h⟩

theorem steps_par_shuffle {a b : PR ι} (hdis : ∀ x, x ∈ insts a → x ∉ insts b)
    {la lb l : List (PEv ι)} (hs : Shuffle la lb l) :
    ∀ {a' b' : PR ι}, steps a la = some a' → steps b lb = some b' → steps (.par a b) l = some (.par a' b') := by
  induction hs generalizing a b with
  | nil => intro a' b' ha hb; cases ha; cases hb; rfl
  | @left e la lb l _ ih =>
    intro a' b' ha hb
    obtain ⟨a1, hd, ha⟩ := steps_cons.mp ha
    refine steps_cons.mpr ⟨.par a1 b, by simp only [deriv, hd], ?_⟩
    exact ih (fun x hx => hdis x (insts_steps_sub (steps_one hd) x hx)) ha hb
  | @right e la lb l _ ih =>
    intro a' b' ha hb
    obtain ⟨b1, hd, hb⟩ := steps_cons.mp hb
    have hna : deriv a e = none := by
      cases hda : deriv a e with
      | none => rfl
      | some _ => exact absurd (deriv_sys hd) (hdis _ (deriv_sys hda))
    refine steps_cons.mpr ⟨.par a b1, by simp only [deriv, hna, hd, Option.map_some], ?_⟩
    exact ih (fun x hx hxb => hdis x hx (insts_steps_sub (steps_one hd) x hxb)) ha hb

/-- what a complete declarative execution leaves behind: a residual that is finished, with the
right outcome -/
theorem ptraces_steps {t : Task ι} {l : List (PEv ι)} {o : Bool} (h : PTraces pan t l o) :
    t.sys.Nodup → ∃ r', steps t.toPR l = some r' ∧ status r' = (if o then .panicked else .ok) := by
  induction h with
  | nil => intro _; exact ⟨.nil, rfl, rfl⟩
  | @leafOk s _ => intro _; exact ⟨.fin, by simp [Task.toPR, steps, deriv], rfl⟩
  | @leafPanic s _ => intro _; exact ⟨.dead, by simp [Task.toPR, steps, deriv], rfl⟩
  | @seqOk a b la lb o _ _ iha ihb =>
    intro hnd
    obtain ⟨hna, hnb, _⟩ := List.nodup_append.mp hnd
    obtain ⟨a', ha, hsa⟩ := iha hna
    obtain ⟨b', hb, hsb⟩ := ihb hnb
    refine ⟨.seq a' b', ?_, by simp only [status, hsa, hsb, Bool.false_eq_true, ↓reduceIte]⟩
    rw [Task.toPR, steps_append, steps_seq_left ha]
    exact steps_seq_right hsa hb
  | @seqPanic a b la _ iha =>
    intro hnd
    obtain ⟨a', ha, hsa⟩ := iha (List.nodup_append.mp hnd).1
    exact ⟨.seq a' b.toPR, steps_seq_left ha, by simp only [status, hsa, ↓reduceIte]⟩
  | @par a b la lb l oa ob _ _ hs iha ihb =>
    intro hnd
    obtain ⟨hna, hnb, hdis⟩ := List.nodup_append.mp hnd
    obtain ⟨a', ha, hsa⟩ := iha hna
    obtain ⟨b', hb, hsb⟩ := ihb hnb
    refine ⟨.par a' b', steps_par_shuffle ?_ hs ha hb, ?_⟩
    · intro x hx hxb
      rw [insts_toPR] at hx hxb
      exact hdis x hx x hxb rfl
    · simp only [status, hsa, hsb]
      cases oa <;> cases ob <;> rfl
  | @scopeOk s body l _ ih =>
    intro hnd
    obtain ⟨b', hb, hsb⟩ := ih (List.nodup_cons.mp hnd).2
    refine ⟨.fin, ?_, rfl⟩
    rw [Task.toPR, steps_append, steps_scope hb]
    simp [steps, deriv, deriv_none_of_done b' _ (by simp [hsb]), hsb]
  | @scopePanic s body l _ ih =>
    intro hnd
    obtain ⟨b', hb, hsb⟩ := ih (List.nodup_cons.mp hnd).2
    refine ⟨.dead, ?_, rfl⟩
    rw [Task.toPR, steps_append, steps_scope hb]
    simp [steps, deriv, deriv_none_of_done b' _ (by simp [hsb]), hsb]

/-- the acceptor accepts every declarative execution, with the same outcome: both report a panic
iff the log holds a `P` -/
theorem ptraces_run {t : Task ι} {l : List (PEv ι)} {o : Bool} (h : PTraces pan t l o) (hnd : t.sys.Nodup) :
    t.toPR.run l = some o := by
  obtain ⟨r', hs, hst⟩ := ptraces_steps h hnd
  have hp : hasPanic r' = true ↔ ∃ s, PEv.P s ∈ l := by
    simpa [hasPanic_toPR] using (runs_of_steps hs).hasPanic
  exact run_eq_some_iff.mpr ⟨r', hs, finalOk_of_done false (by cases o <;> simp [hst]),
    Bool.eq_iff_iff.mpr ((panicked_iff h).trans hp.symm)⟩

/-- **C14: whoever comes after a panicking system does not run.** If `x` is ordered before `y`
and `x` (or the batch `x`) was unwound by a panic, `y` never fetches: a declaratively legal
execution is a run of the acceptor, for which `dependents_dont_start` says so. -/
theorem dependents_dont_run {t : Task ι} {l : List (PEv ι)} {o : Bool} (h : PTraces pan t l o) :
    t.sys.Nodup → ∀ x y, Before t x y → PEv.P x ∈ l → PEv.F y ∉ l := fun hnd _ _ hb =>
  let ⟨_, hs, _⟩ := ptraces_steps h hnd
  dependents_dont_start hb (runs_of_steps hs) hnd

#print axioms dependents_dont_run
end Shred
