import ShredModel.Lemmas.AsyncStep
import ShredModel.Lemmas.TaskN
import ShredModel.Model.Plan
/-!
# The invariant of the asynchronous dispatcher's transition system

Every reachable (control state, log) pair satisfies `Inv` (what `Data`, the job and the dispatch count say
about the log) and `opOk` (what the caller's position inside an operation says about it), and every event
of a reachable log was emitted by a `Step` out of such a pair whose log is what precedes the event
(`run_at`). The theorems of `Props/C15.lean` are this fact read at one kind of event: the log before an event
that needs a quiet dispatcher (`AEv.settled`) is quiescent (`quiescent_at`), a system of the job runs inside its
dispatch (`sys_at`), a return finds the caller where its operation ends (`ret_at`, `traces_at_ret`).
-/
namespace Shred
namespace Async
open RTask

def derivs : RTask Nat → List (Ev Nat) → Option (RTask Nat)
  | t, [] => some t
  | t, e :: l => match deriv t e with
    | some t' => derivs t' l
    | none => none

theorem derivs_snoc (t : RTask Nat) (l : List (Ev Nat)) (e : Ev Nat) :
    derivs t (l ++ [e]) = (derivs t l).bind (fun r => deriv r e) := by
  induction l generalizing t with
  | nil => simp [derivs]; cases deriv t e <;> rfl
  | cons a l ih =>
    simp only [List.cons_append, derivs]
    cases deriv t a with
    | none => rfl
    | some t' => exact ih t'

theorem derivs_sound {t r : RTask Nat} {l rest : List (Ev Nat)} (h : derivs t l = some r)
    (hr : RTraces r rest) : RTraces t (l ++ rest) := by
  induction l generalizing t with
  | nil => cases h; exact hr
  | cons a l ih =>
    simp only [derivs] at h
    split at h
    next t' hd => exact (rstep_of_deriv t hd).sound (ih h)
    next => cases h

theorem traces_of_derivs {t : Task Nat} {r : RTask Nat} {l : List (Ev Nat)}
    (h : derivs t.toR l = some r) (hn : nullable r = true) : Traces t l :=
  traces_of_toR t l (List.append_nil l ▸ derivs_sound h (nullable_traces r hn))

theorem derivs_count_le {t : Task Nat} {r : RTask Nat} {l : List (Ev Nat)} (h : derivs t.toR l = some r)
    (hnd : t.sys.Nodup) (e : Ev Nat) : l.count e ≤ 1 := by
  obtain ⟨rest, hr⟩ := rtask_has_trace r
  have := traces_count_le (traces_of_toR t _ (derivs_sound h hr)) hnd e
  rw [List.count_append] at this
  exact Nat.le_trans (Nat.le_add_right _ _) this

theorem shuffle_nil_right {α} {a l : List α} (h : Shuffle a [] l) : l = a := by
  induction a generalizing l with
  | nil => cases h; rfl
  | cons x a ih => cases h with | left h' => exact congrArg (x :: ·) (ih h')

theorem traces_groupTask {g : List Nat} {l : List (Ev Nat)} (h : Traces (groupTask g) l) :
    l = g.flatMap fun t => [Ev.F t, Ev.D t] :=
  traces_seqN_map .leaf _ (fun _ _ h => by cases h; rfl) g h

/-- `for sys in &mut self.thread_local { sys.run_now(world) }` has exactly one trace -/
theorem traces_tlTask {P : APlan} {l : List (Ev Nat)} (h : Traces P.tlTask l) :
    l = P.tl.flatMap fun t => [Ev.F t, Ev.D t] :=
  traces_groupTask h

/-- `for stage in &mut inner.stages { stage.execute(world) }` over stages of one group of one system each
(`chainPlan` in `Props/C15.lean`) has exactly one trace -/
theorem chain_traces (xs : List Nat) (t : List (Ev Nat))
    (h : Traces (stagesTask (xs.map fun x => [[x]])) t) : t = xs.flatMap fun x => [Ev.F x, Ev.D x] := by
  rw [stagesTask, List.map_map] at h
  refine traces_seqN_map _ _ (fun x l hx => ?_) xs h
  -- `stageTask [[x]]` is `par (groupTask [x]) nil`
  cases hx with
  | par h1 h2 hsh =>
    cases h2
    cases traces_groupTask h1
    exact shuffle_nil_right hsh

/-- `Data` is `Inner` exactly while no closure is outstanding (`idle`); from the spawn until the caller takes
the message out of the mailbox (`acquire` / `poll` put the job back to `idle`) it is `Rx` -/
def dataOk : Data → Job → Prop
  | .inner, .idle => True
  | .rx, .running _ => True
  | .rx, .sent => True
  | .rx, .failed _ _ _ => True
  | _, _ => False

/-- `n` is `nDisp`: the latest dispatch is number `n - 1`. While the closure runs or is being unwound, `r` is
what its events leave of the stages' task; in `idle` and `sent` (the last arm) the closure is over or, if
`n = 0`, was never spawned -/
def jobOk (P : APlan) (l : List AEv) (n : Nat) : Job → Prop
  | .running r => 0 < n ∧ derivs P.job.toR (projD (n - 1) l) = some r
  | .failed r _ _ => 0 < n ∧ derivs P.job.toR (projD (n - 1) l) = some r
  | _ => 0 < n → Traces P.job (projD (n - 1) l)

/-- once `inner()` has returned, or `inner_noblock()` has returned `Some` (`polled false`), `Data` is `Inner`;
between the spawn and the return of `dispatch`, and when `try_recv` found nothing (`polled true`), it is `Rx`.
`running`, `wait` and `setup` are never `holding`: they have positions of their own -/
def callerOk : Caller → Data → Prop
  | .holding op, d => d = .inner ∧ op ≠ .running ∧ op ≠ .wait ∧ op ≠ .setup
  | .inTl _, d => d = .inner
  | .polled false, d => d = .inner
  | .spawned, d => d = .rx
  | .polled true, d => d = .rx
  | .inSetup _, d => d = .inner
  | .tlFailed, d => d = .inner
  | _, _ => True

def callerOp : Caller → Option AOp
  | .ready => none
  | .called op => some op
  | .holding op => some op
  | .spawned => some .dispatch
  | .inTl _ => some .wait
  | .polled _ => some .running
  | .inSetup _ => some .setup
  | .tlFailed => some .wait

/-- 1 between the spawn and the return of `dispatch`: the one position in which `nDisp` is ahead of the
`ret dispatch` events of the log -/
def spawnedBit : Caller → Nat
  | .spawned => 1
  | _ => 0

def isSysP : AEv → Bool
  | .sysP _ _ _ => true
  | _ => false

def Job.isFailed : Job → Bool
  | .failed _ _ _ => true
  | _ => false

theorem any_isSysP {l : List AEv} : l.any isSysP = true ↔ ∃ th d x, AEv.sysP th d x ∈ l := by
  refine List.any_eq_true.trans ⟨fun ⟨a, ha, hp⟩ => ?_, fun ⟨_, _, _, h⟩ => ⟨_, h, rfl⟩⟩
  cases a with
  | sysP th d x => exact ⟨th, d, x, ha⟩
  | _ => cases hp

/-- What a reachable control state `c` says about its log `l`. `projD d l` is what dispatch `d` logged: nothing
for the dispatches not yet made (`beyond`), a complete trace of the job for all but the latest (`earlier`), and for
the latest what `jobOk` reads off the job's state (`current`). `data_job` and `caller_data` tie `Data` to the job and
to the caller's position; `pend` says that this position is the call still open in the log, `disp` that `nDisp`
counts the `ret dispatch` events, one ahead between the spawn and that return. A job panic is in the log exactly
when the job is `failed` (`fail_iff`). -/
structure Inv (P : APlan) (c : Ctl) (l : List AEv) : Prop where
  data_job : dataOk c.data c.job
  beyond : ∀ d, c.nDisp ≤ d → projD d l = []
  earlier : ∀ d, d + 1 < c.nDisp → Traces P.job (projD d l)
  current : jobOk P l c.nDisp c.job
  caller_data : callerOk c.caller c.data
  pend : pending l none = callerOp c.caller
  disp : c.nDisp = dispatches l + spawnedBit c.caller
  fail_iff : l.any isSysP = c.job.isFailed
  /-- no dispatch follows a panic: `sender()` starts with `inner()`, which then never returns -/
  fail_disp : ∀ th d x, AEv.sysP th d x ∈ l → d + 1 = c.nDisp

theorem inv_init (P : APlan) : Inv P {} [] where
  data_job := trivial
  beyond _ _ := rfl
  earlier _ h := absurd h (Nat.not_lt_zero _)
  current h := absurd h (Nat.lt_irrefl 0)
  caller_data := trivial
  pend := rfl
  disp := rfl
  fail_iff := rfl
  fail_disp _ _ _ h := nomatch h

theorem jobOk_congr {P : APlan} {l l' : List AEv} {n : Nat} {j : Job}
    (h : ∀ d, projD d l' = projD d l) : jobOk P l n j → jobOk P l' n j := by
  cases j <;> simp only [jobOk, h] <;> exact id

/-- the latest dispatch (number `d`) is complete once its job has nothing left but its `send` -/
theorem jobOk.traces {P : APlan} {l : List AEv} {n d : Nat} {j : Job} (h : jobOk P l n j) (hd : d + 1 = n)
    (hq : j.quiet = true) : Traces P.job (projD d l) := by
  subst hd
  cases j with
  | running r => exact traces_of_derivs h.2 hq
  | failed r ps g => cases hq
  | idle | sent => exact h (Nat.succ_pos d)

/-- the events of the latest dispatch are a prefix of a trace of the stages' task -/
theorem jobOk.count_le {P : APlan} {l : List AEv} {n d : Nat} {j : Job} (h : jobOk P l n j) (hd : d + 1 = n)
    (hnd : P.job.sys.Nodup) (e : Ev Nat) : (projD d l).count e ≤ 1 := by
  subst hd
  cases j with
  | running r | failed r ps g => exact derivs_count_le h.2 hnd e
  | idle | sent => exact traces_count_le (h (Nat.succ_pos d)) hnd e

theorem available_iff {d : Data} {j : Job} : available d j = true ↔ d = .inner ∨ j = .sent := by
  cases d with
  | inner => exact ⟨fun _ => .inl rfl, fun _ => rfl⟩
  | rx =>
    cases j with
    | sent => exact ⟨fun _ => .inr rfl, fun _ => rfl⟩
    | _ => exact ⟨nofun, fun h => h.elim nofun nofun⟩

theorem dataOk.idle_of_inner {j : Job} (h : dataOk .inner j) : j = .idle := by
  cases j with
  | idle => rfl
  | _ => exact h.elim

theorem dataOk.rx_of_busy {d : Data} {j : Job} (h : dataOk d j) (hj : j ≠ .idle) : d = .rx := by
  cases d with
  | rx => rfl
  | inner => exact absurd h.idle_of_inner hj

theorem afterAcquire_spec (P : APlan) {op : AOp} (h : op ≠ .running) :
    callerOk (afterAcquire P op) .inner ∧ callerOp (afterAcquire P op) = some op ∧
      spawnedBit (afterAcquire P op) = 0 := by
  cases op with
  | running => exact absurd rfl h
  | wait | setup => exact ⟨rfl, rfl, rfl⟩
  | _ => exact ⟨⟨rfl, nofun, nofun, nofun⟩, rfl, rfl⟩

/-- A step of the caller alone: `ev` is no event of a system (`not_sys`, `not_panic`), so the job and every
dispatch's log stay, and `caller_data`, `pend`, `disp` are asked for the new position `cl'`. Stated so that for
a concrete `ev` and concrete positions every side condition holds by `rfl`. -/
theorem Inv.caller_step {P : APlan} {l : List AEv} {d j cl n} (hi : Inv P ⟨d, j, cl, n⟩ l) (cl' : Caller) (ev : AEv)
    (not_sys : ∀ k, projD k [ev] = []) (not_panic : isSysP ev = false) (caller_data : callerOk cl' d)
    (pend : pending [ev] (callerOp cl) = callerOp cl')
    (disp : dispatches [ev] + spawnedBit cl' = spawnedBit cl) :
    Inv P ⟨d, j, cl', n⟩ (l ++ [ev]) :=
  have ho : ∀ k, projD k (l ++ [ev]) = projD k l := fun k => by rw [projD_append, not_sys, List.append_nil]
  { data_job := hi.data_job
    beyond := fun k h => (ho k).trans (hi.beyond k h)
    earlier := fun k h => (ho k).symm ▸ hi.earlier k h
    current := jobOk_congr ho hi.current
    caller_data := caller_data
    pend := by rw [pending_append, hi.pend]; exact pend
    disp := by rw [dispatches_append, Nat.add_assoc, disp]; exact hi.disp
    fail_iff := by simpa [not_panic] using hi.fail_iff
    fail_disp := fun th k x h => by
      rcases List.mem_append.mp h with h | h
      · exact hi.fail_disp th k x h
      · cases List.mem_singleton.mp h; cases not_panic }

/-- A step of the job alone: `ev` belongs to the latest dispatch, number `n - 1` (`only_latest`), and is no call or
return (`pend`, `disp`), so the caller's position and the other dispatches' logs stay; what the invariant says
of the job (`data_job`, `current`, `fail_iff`, `fail_disp`) is asked for the new job `j'`. -/
theorem Inv.job_step {P : APlan} {l : List AEv} {d j cl n} (hi : Inv P ⟨d, j, cl, n⟩ l) (j' : Job) (ev : AEv)
    (pos : 0 < n) (only_latest : ∀ k, k ≠ n - 1 → projD k [ev] = []) (pend : ∀ p, pending [ev] p = p)
    (disp : dispatches [ev] = 0) (data_job : dataOk d j') (current : jobOk P (l ++ [ev]) n j')
    (fail_iff : (isSysP ev || j.isFailed) = j'.isFailed) (fail_disp : ∀ th k x, ev = .sysP th k x → k + 1 = n) :
    Inv P ⟨d, j', cl, n⟩ (l ++ [ev]) :=
  have ho : ∀ k, k ≠ n - 1 → projD k (l ++ [ev]) = projD k l := fun k h => by
    rw [projD_append, only_latest k h, List.append_nil]
  { data_job := data_job
    beyond := fun k h =>
      (ho k (Nat.ne_of_gt (Nat.lt_of_lt_of_le (Nat.sub_lt pos Nat.one_pos) h))).trans (hi.beyond k h)
    earlier := fun k h => (ho k (Nat.ne_of_lt (Nat.lt_sub_of_add_lt h))).symm ▸ hi.earlier k h
    current := current
    caller_data := hi.caller_data
    pend := by rw [pending_append, pend]; exact hi.pend
    disp := by rw [dispatches_append, disp]; exact hi.disp
    fail_iff := by rw [← fail_iff, ← hi.fail_iff]; simp [Bool.or_comm]
    fail_disp := fun th k x h => by
      rcases List.mem_append.mp h with h | h
      · exact hi.fail_disp th k x h
      · exact fail_disp th k x (List.mem_singleton.mp h).symm }

theorem Step.inv {P : APlan} {c c' : Ctl} {l : List AEv} {lb : Lbl} {o : Option AEv}
    (hi : Inv P c l) (hs : Step P o c lb c') : Inv P c' (l ++ optList o) := by
  cases hs with
  | call op =>
    exact hi.caller_step (.called op) (.call op) (not_sys := fun _ => rfl) (not_panic := rfl)
      (caller_data := trivial) (pend := rfl) (disp := rfl)
  | retHolding h =>
    exact hi.caller_step .ready _ (not_sys := fun _ => rfl) (not_panic := rfl) (caller_data := trivial)
      (pend := rfl) (disp := dispatches_ret h false [])
  | retSpawned | retWait _ | retRunning v | retSetup | raiseTl | raiseDead | observe _ | observeGone =>
    exact hi.caller_step .ready _ (not_sys := fun _ => rfl) (not_panic := rfl) (caller_data := trivial)
      (pend := rfl) (disp := rfl)
  -- inside `wait` and `setup` the caller moves between positions with the same `callerOk`
  | tlEv _ | tlPanic _ | hookEv =>
    exact hi.caller_step _ _ (not_sys := fun _ => rfl) (not_panic := rfl)
      (caller_data := hi.caller_data) (pend := rfl) (disp := rfl)
  | @acquire d j n op h1 hav =>
    -- `inner()` returns: `Data` was `Inner` (then there is no job) or the job has sent; `idle` and `sent`
    -- share an arm of `jobOk`
    have hj : jobOk P l n .idle ∧ j.isFailed = false := by
      rcases available_iff.mp hav with rfl | rfl
      · obtain rfl := hi.data_job.idle_of_inner
        exact ⟨hi.current, rfl⟩
      · exact ⟨hi.current, rfl⟩
    have ⟨hcd, hop, hsp⟩ := afterAcquire_spec P h1
    exact (List.append_nil l).symm ▸ { hi with
      data_job := trivial, current := hj.1, caller_data := hcd, pend := hi.pend.trans hop.symm,
      disp := hi.disp.trans (hsp ▸ rfl), fail_iff := hi.fail_iff.trans hj.2 }
  | pollInner | pollBusy _ _ => exact (List.append_nil l).symm ▸ { hi with caller_data := rfl }
  | pollSent => exact (List.append_nil l).symm ▸ { hi with data_job := trivial, caller_data := rfl }
  | @spawn d j n =>
    -- the new job is dispatch `n`, which has no event yet; dispatch `n - 1` is complete
    rw [show l ++ optList none = l from List.append_nil l]
    obtain rfl : d = .inner := hi.caller_data.1
    obtain rfl := dataOk.idle_of_inner hi.data_job
    refine { hi with
      data_job := trivial
      beyond := fun k h => hi.beyond k (Nat.le_of_succ_le h)
      earlier := fun k h => ?_
      current := ⟨Nat.succ_pos n, by rw [Nat.add_sub_cancel, hi.beyond n (Nat.le_refl n)]; rfl⟩
      caller_data := rfl
      disp := congrArg (· + 1) hi.disp
      fail_disp := fun th k x h => ?_ }
    · rcases Nat.lt_or_eq_of_le (Nat.le_of_lt_succ h) with hk | rfl
      · exact hi.earlier k hk
      · exact hi.current (Nat.succ_pos k)
    · exact Bool.noConfusion (hi.fail_iff.symm.trans (any_isSysP.mpr ⟨_, _, _, h⟩))
  | @send d cl n r hnull =>
    obtain rfl := hi.data_job.rx_of_busy Job.noConfusion
    exact (List.append_nil l).symm ▸ { hi with
      data_job := trivial, current := fun _ => traces_of_derivs hi.current.2 hnull }
  | @die d cl n r ps _ =>
    obtain rfl := hi.data_job.rx_of_busy Job.noConfusion
    exact (List.append_nil l).symm ▸ { hi with data_job := trivial }
  | @jobEv d cl n r r' e hr | @jobEvFailed d cl n r r' ps e _ hr =>
    have hcur := hi.current
    obtain rfl := hi.data_job.rx_of_busy Job.noConfusion
    refine hi.job_step _ _ (pos := hcur.1) (only_latest := fun k hk => if_neg (Ne.symm hk))
      (pend := fun _ => rfl) (disp := rfl) (data_job := trivial) (current := ⟨hcur.1, ?_⟩)
      (fail_iff := rfl) (fail_disp := fun _ _ _ h => nomatch h)
    rw [projD_append, show projD (n - 1) [AEv.sys .worker (n - 1) e] = [e] from if_pos rfl, derivs_snoc, hcur.2]
    exact hr
  | @jobPanic d cl n r x _ | @jobPanicFailed d cl n r ps x _ _ =>
    have hcur := hi.current
    obtain rfl := hi.data_job.rx_of_busy Job.noConfusion
    exact hi.job_step _ _ (pos := hcur.1) (only_latest := fun _ _ => rfl) (pend := fun _ => rfl)
      (disp := rfl) (data_job := trivial)
      (current := ⟨hcur.1, by rw [projD_append]; exact (List.append_nil _).symm ▸ hcur.2⟩)
      (fail_iff := rfl) (fail_disp := fun _ _ _ h => by cases h; exact Nat.sub_add_cancel hcur.1)

/-- what has been logged since the most recent `call`, against the caller's position: the thread-local
events of a `wait` leave the residual the caller holds, the hooks of a `setup` are those it no longer has
to call -/
def opOk (P : APlan) (l : List AEv) : Caller → Prop
  | .called _ => tlSince l [] = [] ∧ hookSince l [] = []
  | .inTl r => derivs P.tlTask.toR (tlSince l []) = some r
  | .tlFailed => ∃ r x, derivs P.tlTask.toR (tlSince l []) = some r ∧ x ∈ opens r
  | .inSetup rest => hookSince l [] ++ rest = P.job.sys ++ P.tl
  | _ => True

theorem opOk_congr {P : APlan} {l l' : List AEv} {cl : Caller} (ht : tlSince l' [] = tlSince l [])
    (hk : hookSince l' [] = hookSince l []) (h : opOk P l cl) : opOk P l' cl := by
  cases cl <;> simp only [opOk, ht, hk] at h ⊢ <;> exact h

theorem Step.opOk {P : APlan} {c c' : Ctl} {l : List AEv} {lb : Lbl} {o : Option AEv}
    (hi : opOk P l c.caller) (hs : Step P o c lb c') : opOk P (l ++ optList o) c'.caller := by
  cases hs with
  | call op => exact ⟨tlSince_append l _ _, hookSince_append l _ _⟩
  | @acquire d j n op _ _ =>
    rw [show l ++ optList none = l from List.append_nil l]
    have ht : tlSince l [] = [] := hi.1
    have hk : hookSince l [] = [] := hi.2
    cases op with
    | wait => show derivs P.tlTask.toR (tlSince l []) = some P.tlTask.toR; rw [ht]; rfl
    | setup => show hookSince l [] ++ (P.job.sys ++ P.tl) = _; rw [hk]; rfl
    | _ => trivial
  | pollInner | pollSent | pollBusy _ _ | spawn | retHolding _ | retSpawned | retWait _ | retRunning _
  | retSetup | raiseTl | raiseDead | observe _ | observeGone => trivial
  | @tlEv d j n r r' e hr =>
    have ht : tlSince (l ++ [.tl .caller e]) [] = tlSince l [] ++ [e] := tlSince_append l _ _
    show derivs _ (tlSince (l ++ [_]) []) = some r'
    rw [ht, derivs_snoc, show derivs _ (tlSince l []) = some r from hi]
    exact hr
  | @tlPanic d j n r x hx =>
    have ht : tlSince (l ++ [.tlP .caller x]) [] = tlSince l [] := tlSince_append l _ _
    exact ⟨r, x, ht ▸ hi, List.mem_of_elem_eq_true hx⟩
  | @hookEv d j n x rest =>
    have hk : hookSince (l ++ [.hook .caller x]) [] = hookSince l [] ++ [x] := hookSince_append l _ _
    show hookSince (l ++ [_]) [] ++ rest = _
    rw [hk, List.append_assoc]
    exact hi
  | send _ | die _ => exact (List.append_nil l).symm ▸ hi
  | jobEv _ | jobEvFailed _ _ | jobPanic _ | jobPanicFailed _ _ =>
    exact opOk_congr (tlSince_append l _ _) (hookSince_append l _ _) hi

theorem run_full {P : APlan} {c : Ctl} {l : List AEv} (h : Run P c l) : Inv P c l ∧ opOk P l c.caller := by
  induction h with
  | init => exact ⟨inv_init P, trivial⟩
  | step _ hs ih => exact ⟨(Step.of_step hs).inv ih.1, (Step.of_step hs).opOk ih.2⟩

theorem run_inv {P : APlan} {c : Ctl} {l : List AEv} (h : Run P c l) : Inv P c l :=
  (run_full h).1

theorem run_split {P : APlan} {c : Ctl} {l l1 l2 : List AEv} {ev : AEv} (h : Run P c l) (hl : l = l1 ++ ev :: l2) :
    ∃ c1 lb c1', Run P c1 l1 ∧ step P c1 lb = some (c1', some ev) := by
  induction h generalizing l2 with
  | init => cases l1 <;> cases hl
  | @step c l lb c' o hr hs ih =>
    cases o with
    | none => exact ih ((List.append_nil l).symm.trans hl)
    | some x =>
      -- the last event of the log is `x`: either it is `ev`, or `ev` is in front of it
      rcases List.eq_nil_or_concat l2 with rfl | ⟨l2', b, rfl⟩
      · obtain ⟨rfl, h2⟩ := List.append_inj' hl rfl
        cases h2
        exact ⟨c, lb, c', hr, hs⟩
      · rw [List.concat_eq_append, ← List.cons_append, ← List.append_assoc] at hl
        exact ih (List.append_inj' hl rfl).1

theorem run_at {P : APlan} {c : Ctl} {l l1 l2 : List AEv} {ev : AEv} (h : Run P c l) (hl : l = l1 ++ ev :: l2) :
    ∃ c1 lb c1', Inv P c1 l1 ∧ opOk P l1 c1.caller ∧ Step P (some ev) c1 lb c1' :=
  have ⟨c1, lb, c1', hr, hs⟩ := run_split h hl
  ⟨c1, lb, c1', (run_full hr).1, (run_full hr).2, .of_step hs⟩

theorem Inv.quiescent {P : APlan} {c : Ctl} {l : List AEv} (hi : Inv P c l) (hq : c.job.quiet = true) :
    Quiescent P l c.nDisp := by
  refine ⟨fun d h => ?_, hi.beyond⟩
  rcases Nat.lt_or_eq_of_le (Nat.succ_le_of_lt h) with h' | h'
  · exact hi.earlier d h'
  · exact hi.current.traces h' hq

theorem Inv.inner {P : APlan} {c : Ctl} {l : List AEv} (hi : Inv P c l) (hd : c.data = .inner) :
    dataOk .inner c.job ∧ c.job.quiet = true ∧ c.nDisp = dispatches l := by
  obtain ⟨d, j, cl, n⟩ := c
  subst hd
  have hcd := hi.caller_data
  refine ⟨hi.data_job, dataOk.idle_of_inner hi.data_job ▸ rfl, hi.disp.trans ?_⟩
  -- `spawned`, the one position with `spawnedBit = 1`, has `Data = Rx` by `callerOk`
  cases cl with
  | spawned => exact nomatch hcd
  | _ => rfl

theorem quiescent_none_open {P : APlan} {l : List AEv} {k : Nat} (h : Quiescent P l k) (d x : Nat) :
    ¬ OpenAt l d x := by
  intro ⟨hF, hD⟩
  by_cases hd : d < k
  · have ht := h.1 d hd
    exact hD (traces_complete ht x (traces_ev_sys ht _ hF)).2
  · rw [h.2 d (Nat.le_of_not_lt hd)] at hF
    cases hF

/-- the events that are logged only when no system of any dispatch is running or still to run: the
dispatcher holds `Data::Inner` (an accessor or `running() = false` returns, a thread-local system or
a setup hook runs), or the environment has seen the job's end (`quiet`) -/
def AEv.settled : AEv → Bool
  | .ret op v => op != .dispatch && (op != .running || !v)
  | .tl _ _ | .tlP _ _ | .hook _ _ | .quiet => true
  | _ => false

theorem AEv.settled_ret {op : AOp} {v : Bool} :
    (AEv.ret op v).settled = true ↔ op ≠ .dispatch ∧ (op ≠ .running ∨ v = false) := by
  simp [AEv.settled]

theorem AEv.not_settled_ret {op : AOp} {v : Bool} :
    ¬ (AEv.ret op v).settled = true ↔ op = .dispatch ∨ (op = .running ∧ v = true) := by
  rw [AEv.settled_ret, Decidable.not_and_iff_not_or_not, Decidable.not_not, not_or, Decidable.not_not,
    Bool.not_eq_false]

theorem AEv.settled_tl (th : Th) (e : Ev Nat) : (AEv.tl th e).settled = true := rfl
theorem AEv.settled_tlP (th : Th) (x : Nat) : (AEv.tlP th x).settled = true := rfl
theorem AEv.settled_hook (th : Th) (x : Nat) : (AEv.hook th x).settled = true := rfl
theorem AEv.settled_quiet : AEv.quiet.settled = true := rfl

theorem Step.settled {P : APlan} {c c' : Ctl} {l : List AEv} {lb : Lbl} {ev : AEv}
    (hs : Step P (some ev) c lb c') (hi : Inv P c l) (hev : ev.settled = true) :
    c.job.quiet = true ∧ c.nDisp = dispatches l := by
  cases hs with
  | retHolding _ => exact (hi.inner hi.caller_data.1).2
  | retWait _ | retSetup | tlEv _ | tlPanic _ | hookEv => exact (hi.inner hi.caller_data).2
  | retRunning v =>
    cases v with
    | false => exact (hi.inner hi.caller_data).2
    | true => exact nomatch hev
  | observe hq => exact ⟨hq, hi.disp⟩
  | call | retSpawned | raiseTl | raiseDead | observeGone | jobEv _ | jobEvFailed _ _ | jobPanic _
  | jobPanicFailed _ _ => exact nomatch hev

/-- the general form of C15's completion theorems -/
theorem quiescent_at {P : APlan} {c : Ctl} {l l1 l2 : List AEv} {ev : AEv} (h : Run P c l)
    (hl : l = l1 ++ ev :: l2) (hev : ev.settled = true) : Quiescent P l1 (dispatches l1) :=
  have ⟨_, _, _, hi, _, hs⟩ := run_at h hl
  have ⟨hq, hn⟩ := hs.settled hi hev
  hn ▸ hi.quiescent hq

/-- once a system of a job has panicked the job is `failed` — for ever -/
theorem Inv.failed {P : APlan} {c : Ctl} {l : List AEv} (hi : Inv P c l) {th : Th} {d x : Nat}
    (hp : AEv.sysP th d x ∈ l) : ∃ r ps g, c.job = .failed r ps g := by
  have hf := hi.fail_iff.symm.trans (any_isSysP.mpr ⟨_, _, _, hp⟩)
  cases hj : c.job with
  | failed r ps g => exact ⟨_, _, _, rfl⟩
  | _ => rw [hj] at hf; cases hf

theorem job_panic_not_settled {P : APlan} {c : Ctl} {l l1 l2 : List AEv} {ev : AEv} {th : Th} {d x : Nat}
    (h : Run P c l) (hl : l = l1 ++ ev :: l2) (hp : AEv.sysP th d x ∈ l1) : ¬ ev.settled = true := by
  intro hev
  have ⟨c1, _, _, hi, _, hs⟩ := run_at h hl
  obtain ⟨r, ps, g, hj⟩ := hi.failed hp
  have hq := (hs.settled hi hev).1
  rw [hj] at hq
  cases hq

theorem sys_at {P : APlan} {c : Ctl} {l l1 l2 : List AEv} {th : Th} {d : Nat} {e : Ev Nat} (h : Run P c l)
    (hl : l = l1 ++ .sys th d e :: l2) : th = .worker ∧ ∃ c1, Inv P c1 l1 ∧ d + 1 = c1.nDisp := by
  have ⟨_, _, _, hi, _, hs⟩ := run_at h hl
  cases hs with
  | jobEv _ | jobEvFailed _ _ => exact ⟨rfl, _, hi, Nat.sub_add_cancel hi.current.1⟩

/-- `dispatch`, `wait` and `setup` return from positions of their own -/
theorem ret_at {P : APlan} {c : Ctl} {l l1 l2 : List AEv} {op : AOp} {v : Bool} (h : Run P c l)
    (hl : l = l1 ++ .ret op v :: l2) :
    ∃ c1, Inv P c1 l1 ∧ opOk P l1 c1.caller ∧
      (op = .dispatch → c1.caller = .spawned) ∧
      (op = .wait → ∃ r, c1.caller = .inTl r ∧ nullable r = true) ∧
      (op = .setup → c1.caller = .inSetup []) := by
  have ⟨_, _, _, hi, ho, hs⟩ := run_at h hl
  cases hs with
  | retHolding hne =>
    -- `acquire` sends `wait` to `inTl` and `setup` to `inSetup`: they are never `holding`
    have hcd := hi.caller_data
    exact ⟨_, hi, ho, (absurd · hne), (absurd · hcd.2.2.1), (absurd · hcd.2.2.2)⟩
  | retSpawned => exact ⟨_, hi, ho, fun _ => rfl, nofun, nofun⟩
  | retWait hn => exact ⟨_, hi, ho, nofun, fun _ => ⟨_, rfl, hn⟩, nofun⟩
  | retRunning _ => exact ⟨_, hi, ho, nofun, nofun, nofun⟩
  | retSetup => exact ⟨_, hi, ho, nofun, nofun, fun _ => rfl⟩

theorem ret_dispatch_at {P : APlan} {c : Ctl} {l l1 l2 : List AEv} {v : Bool} (h : Run P c l)
    (hl : l = l1 ++ .ret .dispatch v :: l2) : ∃ c1, Inv P c1 l1 ∧ c1.nDisp = dispatches l1 + 1 :=
  have ⟨c1, hi, _, hc, _⟩ := ret_at h hl
  ⟨c1, hi, hi.disp.trans (congrArg (dispatches l1 + spawnedBit ·) (hc rfl))⟩

theorem traces_at_ret {P : APlan} {c : Ctl} {l l1 l2 : List AEv} {op : AOp} {v : Bool} (h : Run P c l)
    (hl : l = l1 ++ .ret op v :: l2) (h1 : op ≠ .running) (d : Nat) (hd : d < dispatches l1) :
    Traces P.job (projD d l1) := by
  by_cases h2 : op = .dispatch
  · subst h2
    obtain ⟨c1, hi, hn⟩ := ret_dispatch_at h hl
    exact hi.earlier d (hn ▸ Nat.succ_lt_succ hd)
  · exact (quiescent_at h hl (AEv.settled_ret.mpr ⟨h2, .inl h1⟩)).1 d hd

theorem Inv.at_most_once {P : APlan} {c : Ctl} {l : List AEv} (hi : Inv P c l) (hnd : P.job.sys.Nodup)
    (d : Nat) (e : Ev Nat) : (projD d l).count e ≤ 1 := by
  rcases Nat.lt_or_ge d c.nDisp with h | h
  · rcases Nat.lt_or_eq_of_le (Nat.succ_le_of_lt h) with h' | h'
    · exact traces_count_le (hi.earlier d h') hnd e
    · exact hi.current.count_le h' hnd e
  · rw [hi.beyond d h]
    exact Nat.zero_le 1

end Async
end Shred
