import ShredModel.Lemmas.Exec
/-!
# Nesting by expansion (batches, C07)

`t.expand σ` replaces every leaf `s` of the (flat) outer task `t` for which `σ s = some body`
— the batches, as the outer scheduler sees them — by `scope s body`: the batch window around
what its controller dispatches. The outer task is well-formed with respect to the batches'
*declared* access; "the batch accessor is the union" makes compatibility with a batch imply
compatibility with everything inside it, and then the nested task is well-formed (`wf_expand`),
so all trace theorems apply to it. Bodies may contain scopes themselves: iterating from the
innermost level outwards gives any nesting depth.
-/
namespace Shred
variable {ι : Type} [DecidableEq ι]
open Shred.Task

def Task.expand (σ : ι → Option (Task ι)) : Task ι → Task ι
  | .nil => .nil
  | .leaf x => match σ x with
    | some body => .scope x body
    | none => .leaf x
  | .seq a b => .seq (a.expand σ) (b.expand σ)
  | .par a b => .par (a.expand σ) (b.expand σ)
  | .scope x inner => .scope x (inner.expand σ)

def Under (σ : ι → Option (Task ι)) (x y : ι) : Prop := y = x ∨ ∃ body, σ x = some body ∧ y ∈ body.sys

theorem mem_sys_expand_leaf {σ : ι → Option (Task ι)} {x y : ι} :
    y ∈ ((Task.leaf x).expand σ).sys ↔ Under σ x y := by
  unfold Task.expand Under
  cases σ x with
  | none => exact List.mem_singleton.trans ⟨.inl, fun h => h.elim id fun ⟨_, hb, _⟩ => nomatch hb⟩
  | some body =>
    exact List.mem_cons.trans (or_congr_right ⟨fun h => ⟨body, rfl, h⟩, fun ⟨_, hb, h⟩ => Option.some.inj hb ▸ h⟩)

theorem mem_sys_expand {σ : ι → Option (Task ι)} {t : Task ι} {y : ι} (h : y ∈ (t.expand σ).sys) :
    ∃ x, x ∈ t.sys ∧ Under σ x y := by
  induction t with
  | nil => cases h
  | leaf x => exact ⟨x, List.mem_singleton.mpr rfl, mem_sys_expand_leaf.mp h⟩
  | seq a b iha ihb | par a b iha ihb =>
    rcases List.mem_append.mp h with h | h
    · exact (iha h).imp fun _ hx => ⟨List.mem_append_left _ hx.1, hx.2⟩
    · exact (ihb h).imp fun _ hx => ⟨List.mem_append_right _ hx.1, hx.2⟩
  | scope z inner ih =>
    rcases List.mem_cons.mp h with rfl | h
    · exact ⟨y, List.mem_cons_self, Or.inl rfl⟩
    · exact (ih h).imp fun _ hx => ⟨List.mem_cons_of_mem _ hx.1, hx.2⟩

theorem mem_sys_expand_of_under {σ : ι → Option (Task ι)} {t : Task ι} (hflat : t.NoScope) {x y : ι}
    (hx : x ∈ t.sys) (hu : Under σ x y) : y ∈ (t.expand σ).sys := by
  induction t with
  | nil => cases hx
  | leaf z => cases List.mem_singleton.mp hx; exact mem_sys_expand_leaf.mpr hu
  | seq a b iha ihb | par a b iha ihb =>
    rcases List.mem_append.mp hx with h | h
    · exact List.mem_append_left _ (iha hflat.1 h)
    · exact List.mem_append_right _ (ihb hflat.2 h)
  | scope z inner ih => exact absurd hflat id

/-- **C07, the structural half.** Expanding batches by well-formed bodies keeps the task
well-formed, provided being compatible with a batch means being compatible with its contents. -/
theorem wf_expand {C : ι → ι → Prop} {σ : ι → Option (Task ι)} {t : Task ι} (ht : WF C t)
    (hbody : ∀ s body, σ s = some body → WF C body)
    (hl : ∀ s body, σ s = some body → ∀ x y, y ∈ body.sys → C x s → C x y)
    (hr : ∀ s body, σ s = some body → ∀ x y, y ∈ body.sys → C s x → C y x) :
    WF C (t.expand σ) := by
  induction t with
  | nil => trivial
  | leaf x =>
    simp only [Task.expand]
    cases hσ : σ x with
    | none => trivial
    | some body => exact hbody x body hσ
  | seq a b iha ihb => exact ⟨iha ht.1, ihb ht.2⟩
  | par a b iha ihb =>
    refine ⟨?_, iha ht.2.1, ihb ht.2.2⟩
    intro x hx y hy
    obtain ⟨x0, hx0, hux⟩ := mem_sys_expand hx
    obtain ⟨y0, hy0, huy⟩ := mem_sys_expand hy
    have h0 : C x0 y0 := ht.1 x0 hx0 y0 hy0
    have h1 : C x y0 := by
      rcases hux with rfl | ⟨bx, hσx, hxb⟩
      · exact h0
      · exact hr x0 bx hσx y0 x hxb h0
    rcases huy with rfl | ⟨by', hσy, hyb⟩
    · exact h1
    · exact hl y0 by' hσy x y hyb h1
  | scope x inner ih => exact ih ht

/-- the order of the outer plan carries over to everything inside the batches -/
theorem before_expand {σ : ι → Option (Task ι)} {t : Task ι} (hflat : t.NoScope) {x y : ι}
    (h : Before t x y) : ∀ x' y', Under σ x x' → Under σ y y' → Before (t.expand σ) x' y' := by
  intro x' y' hux huy
  induction h with
  | here hx hy => exact .here (mem_sys_expand_of_under hflat.1 hx hux) (mem_sys_expand_of_under hflat.2 hy huy)
  | seqL _ ih => exact .seqL (ih hflat.1 hux huy)
  | seqR _ ih => exact .seqR (ih hflat.2 hux huy)
  | parL _ ih => exact .parL (ih hflat.1 hux huy)
  | parR _ ih => exact .parR (ih hflat.2 hux huy)
  | scope _ _ => exact absurd hflat id

/-- the order inside a batch is kept -/
theorem before_expand_inner {σ : ι → Option (Task ι)} {t : Task ι} {s : ι} {body : Task ι}
    (hs : s ∈ t.sys) (hflat : t.NoScope) (hσ : σ s = some body) {u v : ι} (h : Before body u v) :
    Before (t.expand σ) u v := by
  induction t with
  | nil => cases hs
  | leaf z =>
    cases List.mem_singleton.mp hs
    rw [Task.expand, hσ]
    exact .scope h
  | seq a b iha ihb =>
    rcases List.mem_append.mp hs with hs | hs
    · exact .seqL (iha hs hflat.1)
    · exact .seqR (ihb hs hflat.2)
  | par a b iha ihb =>
    rcases List.mem_append.mp hs with hs | hs
    · exact .parL (iha hs hflat.1)
    · exact .parR (ihb hs hflat.2)
  | scope z inner ih => exact absurd hflat id

#print axioms wf_expand
end Shred
