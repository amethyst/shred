import ShredModel.Model.CellWord
/-!
# The borrow word refines the abstract borrow state, for every sequence of atomic steps

`Rel H w b`: the word `w` of an `AtomicRefCell` stands for the abstract state `b`, where `H` is the exclusive bit and
lies above every reader count. One atomic step on the word answers what `absStep` answers on the state it stands for,
and leaves a word that stands for the new state (`step_refines`), as long as only guards that exist are dropped and
the reader count stays below `H`; so does every sequence of steps (`run_refines`), whichever threads they come from.
-/
namespace Shred
namespace CellWord

theorem wordStep_tryExcl_pos {H w : Nat} (h : 0 < w) : wordStep H w .tryExcl = (w, false) :=
  if_neg (Nat.ne_of_gt h)

theorem wordStep_tryShared_ge {H w : Nat} (h : H ≤ w) : wordStep H w .tryShared = (w + 1, false) :=
  congrArg (Prod.mk (w + 1)) (decide_eq_false (Nat.not_lt.mpr (Nat.le_succ_of_le h)))

theorem step_refines {H : Nat} (hH : 1 < H) {w : Nat} {b : Borrow} (hr : Rel H w b) (op : COp)
    (hl : legal b op) (hb : ∀ n, b = .shared n → n + 1 < H) :
    Rel H (wordStep H w op).1 (absStep b op).1 ∧ (wordStep H w op).2 = (absStep b op).2 := by
  cases b with
  | free =>
    cases hr
    cases op with
    | tryShared => exact ⟨⟨rfl, Nat.one_pos, hH⟩, decide_eq_true hH⟩
    | tryExcl => exact ⟨Nat.le_refl H, rfl⟩
    | dropShared | dropExcl => exact hl.elim
  | shared n =>
    obtain ⟨rfl, hpos, hlt⟩ := hr
    cases op with
    | tryShared => exact ⟨⟨rfl, Nat.succ_pos _, hb _ rfl⟩, decide_eq_true (hb _ rfl)⟩
    | tryExcl => rw [wordStep_tryExcl_pos hpos]; exact ⟨⟨rfl, hpos, hlt⟩, rfl⟩
    | dropShared =>
      match w, hpos, hlt with
      | 1, _, _ => exact ⟨rfl, rfl⟩
      | n + 2, _, hlt => exact ⟨⟨rfl, Nat.succ_pos _, Nat.lt_of_succ_lt hlt⟩, rfl⟩
    | dropExcl => exact hl.elim
  | excl =>
    have hr : H ≤ w := hr
    cases op with
    | tryShared => rw [wordStep_tryShared_ge hr]; exact ⟨Nat.le_succ_of_le hr, rfl⟩
    | tryExcl => rw [wordStep_tryExcl_pos (Nat.lt_of_lt_of_le (Nat.lt_trans Nat.one_pos hH) hr)]; exact ⟨hr, rfl⟩
    | dropShared => exact hl.elim
    | dropExcl => exact ⟨rfl, rfl⟩

/-- **every sequence of atomic steps** (hence every interleaving of any number of threads
working on one cell) answers exactly what the abstract borrow state answers, and leaves a word
that stands for the abstract state reached -/
theorem run_refines {H : Nat} (hH : 1 < H) (ops : List COp) : ∀ {w : Nat} {b : Borrow},
    Rel H w b → LegalRun H b ops →
    Rel H (runWord H w ops).1 (runAbs b ops).1 ∧ (runWord H w ops).2 = (runAbs b ops).2 := by
  induction ops with
  | nil => intro w b hr _; exact ⟨hr, rfl⟩
  | cons op ops ih =>
    intro w b hr hl
    obtain ⟨hleg, hbound, hrest⟩ := hl
    obtain ⟨hr', ho⟩ := step_refines hH hr op hleg hbound
    obtain ⟨hr'', hos⟩ := ih hr' hrest
    simp only [runWord, runAbs]
    exact ⟨hr'', by rw [ho, hos]⟩

end CellWord
end Shred
