import ShredModel.Model.Async
/-!
# The transition table of the asynchronous dispatcher, and the folds over its log

`Step` is `step` read as a relation: whatever asks which step emitted an event inverts `Step`.
-/
namespace Shred
namespace Async
open RTask

/-- One constructor per clause of `step` that returns `some`, its guards the premises. The emitted event is
the first index so that inverting a step with a known event discards the other constructors at once. -/
inductive Step (P : APlan) : Option AEv → Ctl → Lbl → Ctl → Prop
  | call {d j n} (op : AOp) : Step P (some (.call op)) ⟨d, j, .ready, n⟩ (.call op) ⟨d, j, .called op, n⟩
  | acquire {d j n op} : op ≠ .running → available d j = true →
      Step P none ⟨d, j, .called op, n⟩ .acquire ⟨.inner, .idle, afterAcquire P op, n⟩
  | pollInner {j n} : Step P none ⟨.inner, j, .called .running, n⟩ .poll ⟨.inner, j, .polled false, n⟩
  | pollSent {n} : Step P none ⟨.rx, .sent, .called .running, n⟩ .poll ⟨.inner, .idle, .polled false, n⟩
  | pollBusy {j n} : j ≠ .sent → (∀ r ps, j ≠ .failed r ps true) →
      Step P none ⟨.rx, j, .called .running, n⟩ .poll ⟨.rx, j, .polled true, n⟩
  | spawn {d j n} : Step P none ⟨d, j, .holding .dispatch, n⟩ .spawn ⟨.rx, .running P.job.toR, .spawned, n + 1⟩
  | retHolding {d j n op} : op ≠ .dispatch →
      Step P (some (.ret op false)) ⟨d, j, .holding op, n⟩ .ret ⟨d, j, .ready, n⟩
  | retSpawned {d j n} : Step P (some (.ret .dispatch false)) ⟨d, j, .spawned, n⟩ .ret ⟨d, j, .ready, n⟩
  | retWait {d j n r} : nullable r = true →
      Step P (some (.ret .wait false)) ⟨d, j, .inTl r, n⟩ .ret ⟨d, j, .ready, n⟩
  | retRunning {d j n} (v : Bool) : Step P (some (.ret .running v)) ⟨d, j, .polled v, n⟩ .ret ⟨d, j, .ready, n⟩
  | retSetup {d j n} : Step P (some (.ret .setup false)) ⟨d, j, .inSetup [], n⟩ .ret ⟨d, j, .ready, n⟩
  | tlEv {d j n r r' e} : deriv r e = some r' →
      Step P (some (.tl .caller e)) ⟨d, j, .inTl r, n⟩ (.tlEv e) ⟨d, j, .inTl r', n⟩
  | tlPanic {d j n r x} : (opens r).contains x = true →
      Step P (some (.tlP .caller x)) ⟨d, j, .inTl r, n⟩ (.tlPanic x) ⟨d, j, .tlFailed, n⟩
  | raiseTl {d j n} : Step P (some (.unwound .wait)) ⟨d, j, .tlFailed, n⟩ .raise ⟨d, j, .ready, n⟩
  | raiseDead {n r ps op} :
      Step P (some (.unwound op)) ⟨.rx, .failed r ps true, .called op, n⟩ .raise ⟨.rx, .failed r ps true, .ready, n⟩
  | hookEv {d j n x rest} :
      Step P (some (.hook .caller x)) ⟨d, j, .inSetup (x :: rest), n⟩ (.hookEv x) ⟨d, j, .inSetup rest, n⟩
  | observe {d j n} : j.quiet = true → Step P (some .quiet) ⟨d, j, .ready, n⟩ .observe ⟨d, j, .ready, n⟩
  | observeGone {d n r ps} :
      Step P (some .gone) ⟨d, .failed r ps true, .ready, n⟩ .observeGone ⟨d, .failed r ps true, .ready, n⟩
  | jobEv {d cl n r r' e} : deriv r e = some r' →
      Step P (some (.sys .worker (n - 1) e)) ⟨d, .running r, cl, n⟩ (.jobEv e) ⟨d, .running r', cl, n⟩
  | jobEvFailed {d cl n r r' ps e} : ps.any (fun x => e = .D x) = false → deriv r e = some r' →
      Step P (some (.sys .worker (n - 1) e)) ⟨d, .failed r ps false, cl, n⟩ (.jobEv e) ⟨d, .failed r' ps false, cl, n⟩
  | send {d cl n r} : nullable r = true → Step P none ⟨d, .running r, cl, n⟩ .send ⟨d, .sent, cl, n⟩
  | jobPanic {d cl n r x} : (opens r).contains x = true →
      Step P (some (.sysP .worker (n - 1) x)) ⟨d, .running r, cl, n⟩ (.jobPanic x) ⟨d, .failed r [x] false, cl, n⟩
  | jobPanicFailed {d cl n r ps x} : (opens r).contains x = true → ps.contains x = false →
      Step P (some (.sysP .worker (n - 1) x)) ⟨d, .failed r ps false, cl, n⟩ (.jobPanic x)
        ⟨d, .failed r (x :: ps) false, cl, n⟩
  | die {d cl n r ps} : (opens r).all ps.contains = true →
      Step P none ⟨d, .failed r ps false, cl, n⟩ .die ⟨d, .failed r ps true, cl, n⟩

theorem Step.of_step {P : APlan} {c c' : Ctl} {lb : Lbl} {o : Option AEv}
    (hs : step P c lb = some (c', o)) : Step P o c lb c' := by
  revert hs
  -- one goal per clause of `step`, its patterns and guards in the context; a clause that returns `none`
  -- goes by `cases hs`
  fun_cases step P c lb <;> intro hs <;> cases hs
  -- after `subst_vars` label, data, job and caller are constructor terms on both sides; the clauses of `step`
  -- differ in these, so one constructor of `Step` fits each goal
  all_goals (obtain ⟨d, j, cl, n⟩ := c; subst_vars; constructor)
  -- the guards are there in the constructor's words, except in two clauses
  any_goals assumption
  -- `jobEvFailed` wants `ps.any _ = false` where the clause has `¬ _ = true`
  next h _ _ => exact Bool.eq_false_iff.mpr h
  -- `jobPanicFailed` has two premises where `step` tests one `&&` with a `!`
  next h => exact (Bool.and_eq_true_iff.mp h).1
  next h => exact (Bool.not_eq_true' _).mp (Bool.and_eq_true_iff.mp h).2

theorem step_gone_cases {P : APlan} {c c' : Ctl} {lb : Lbl}
    (hs : step P c lb = some (c', some .gone)) :
    c.caller = .ready ∧ (∃ r ps, c.job = .failed r ps true) ∧ c' = c := by
  cases Step.of_step hs with
  | observeGone => exact ⟨rfl, ⟨_, _, rfl⟩, rfl⟩

theorem projD_append (d : Nat) (l l' : List AEv) : projD d (l ++ l') = projD d l ++ projD d l' := by
  induction l with
  | nil => rfl
  | cons a l ih =>
    cases a with
    | sys th d' e => by_cases h : d' = d <;> simp [projD, h, ih]
    | _ => exact ih

theorem dispatches_append (l l' : List AEv) : dispatches (l ++ l') = dispatches l + dispatches l' := by
  induction l with
  | nil => exact (Nat.zero_add _).symm
  | cons a l ih =>
    cases a with
    | ret op v =>
      cases op with
      | dispatch => exact (congrArg (· + 1) ih).trans (Nat.add_right_comm _ _ _)
      | _ => exact ih
    | _ => exact ih

theorem dispatches_ret {op : AOp} (h : op ≠ .dispatch) (v : Bool) (l : List AEv) :
    dispatches (.ret op v :: l) = dispatches l := by
  cases op with
  | dispatch => exact absurd rfl h
  | _ => rfl

theorem pending_append (l l' : List AEv) (p : Option AOp) : pending (l ++ l') p = pending l' (pending l p) := by
  induction l generalizing p with
  | nil => rfl
  | cons a l ih => cases a <;> exact ih _

def AEv.isCallRet : AEv → Bool
  | .call _ => true
  | .ret _ _ => true
  | .unwound _ => true
  | _ => false

theorem pending_some_aux (l : List AEv) (p : Option AOp) (op : AOp) (h : pending l p = some op) :
    (p = some op ∧ ∀ x, x ∈ l → x.isCallRet = false) ∨
    ∃ l0 l0', l = l0 ++ .call op :: l0' ∧ ∀ x, x ∈ l0' → x.isCallRet = false := by
  induction l generalizing p with
  | nil => exact .inl ⟨h, fun _ hx => nomatch hx⟩
  | cons a l ih =>
    have later : (∃ l0 l0', l = l0 ++ .call op :: l0' ∧ ∀ x, x ∈ l0' → x.isCallRet = false) →
        ∃ l0 l0', a :: l = l0 ++ .call op :: l0' ∧ ∀ x, x ∈ l0' → x.isCallRet = false :=
      fun ⟨l0, l0', h1, h2⟩ => ⟨a :: l0, l0', by rw [h1]; rfl, h2⟩
    cases a with
    | call op' =>
      refine (ih (some op') h).elim (fun ⟨h1, h2⟩ => ?_) (fun h' => .inr (later h'))
      cases h1
      exact .inr ⟨[], l, rfl, h2⟩
    | ret _ _ | unwound _ => exact (ih none h).elim (fun ⟨h1, _⟩ => nomatch h1) (fun h' => .inr (later h'))
    | _ => exact (ih p h).imp (fun ⟨h1, h2⟩ => ⟨h1, List.forall_mem_cons.mpr ⟨rfl, h2⟩⟩) later

theorem pending_some {l : List AEv} {op : AOp} (h : pending l none = some op) :
    ∃ l0 l0', l = l0 ++ .call op :: l0' ∧ ∀ x, x ∈ l0' → x.isCallRet = false :=
  (pending_some_aux l none op h).elim (fun ⟨h1, _⟩ => nomatch h1) id

/-- the thread-local events since the most recent `call` -/
def tlSince : List AEv → List (Ev Nat) → List (Ev Nat)
  | [], acc => acc
  | .call _ :: l, _ => tlSince l []
  | .tl _ e :: l, acc => tlSince l (acc ++ [e])
  | _ :: l, acc => tlSince l acc

theorem tlSince_append (l l' : List AEv) (acc : List (Ev Nat)) :
    tlSince (l ++ l') acc = tlSince l' (tlSince l acc) := by
  induction l generalizing acc with
  | nil => rfl
  | cons a l ih => cases a <;> exact ih _

/-- the setup hooks called since the most recent `call` -/
def hookSince : List AEv → List Nat → List Nat
  | [], acc => acc
  | .call _ :: l, _ => hookSince l []
  | .hook _ x :: l, acc => hookSince l (acc ++ [x])
  | _ :: l, acc => hookSince l acc

theorem hookSince_append (l l' : List AEv) (acc : List Nat) :
    hookSince (l ++ l') acc = hookSince l' (hookSince l acc) := by
  induction l generalizing acc with
  | nil => rfl
  | cons a l ih => cases a <;> exact ih _

end Async
end Shred
