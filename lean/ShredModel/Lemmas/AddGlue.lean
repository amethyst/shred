import ShredModel.Lemmas.Relabel
import ShredModel.Lemmas.Add
import ShredModel.Lemmas.Scenario
/-!
# From `DispatcherBuilder::add` to the registration sequences of the proofs

`add` resolves dependency names through the name map, draws the system's id from a counter that
also advances on rejected calls, and hands `(dependencies, id, system)` to `StagesBuilder::insert`.
This file shows that the `StagesBuilder` inside a `DispatcherBuilder` after **any** sequence of
`add` / `add_barrier` calls (rejected ones included) is the fold of `SOp.stepI σ τ` over a list
of resolved registrations, for an injective numbering `σ` and the tagging `τ` the caller chose
(`builder_is_stepI`) — hence the final builder of a `Scenario`, relabelled by `σ` and `τ`
(`builder_eq_relabel`), and every `Scenario` theorem applies to it.
-/
namespace Shred

/-- what a caller does to a `DispatcherBuilder` -/
inductive BOp
  | add (tag : SysTag) (name : String) (deps : List String) (d : Decl)
  | barrier

def BOp.step (b : DispatcherBuilder) : BOp → DispatcherBuilder
  | .add tag name deps d => (b.add tag name deps d).1
  | .barrier => b.addBarrier

/-- `Consistent` (Lemmas/Reach.lean) without the declarations, `n` registrations having been made
before `ops` -/
def DepsBelow : Nat → List SOp → Prop
  | _, [] => True
  | n, .barrier :: ops => DepsBelow n ops
  | n, .insert dep _ :: ops => (∀ k, k ∈ dep → k < n) ∧ DepsBelow (n + 1) ops

def nIns : List SOp → Nat
  | [] => 0
  | .barrier :: ops => nIns ops
  | .insert _ _ :: ops => nIns ops + 1

/-- the fold over `stepI` only looks at `σ`, `τ` below the number of registrations made so far
(dependencies are indices of earlier registrations) -/
theorem stepI_congr (σ σ' : Nat → Nat) (τ τ' : Nat → SysTag) (ops : List SOp) (st : StagesBuilder × Nat)
    (hd : DepsBelow st.2 ops) (hσ : ∀ k, k < st.2 + nIns ops → σ k = σ' k)
    (hτ : ∀ k, k < st.2 + nIns ops → τ k = τ' k) :
    ops.foldl (SOp.stepI σ τ) st = ops.foldl (SOp.stepI σ' τ') st := by
  induction ops generalizing st with
  | nil => rfl
  | cons op ops ih =>
    rw [List.foldl_cons, List.foldl_cons]
    cases op with
    | barrier => exact ih _ hd hσ hτ
    | insert dep d =>
      have hn : st.2 < st.2 + nIns (.insert dep d :: ops) := Nat.lt_add_of_pos_right (Nat.succ_pos _)
      have e : SOp.stepI σ τ st (.insert dep d) = SOp.stepI σ' τ' st (.insert dep d) := by
        simp only [SOp.stepI, hσ _ hn, hτ _ hn,
          List.map_congr_left fun k hk => hσ k (Nat.lt_trans (hd.1 k hk) hn)]
      have hle : ∀ k, k < st.2 + 1 + nIns ops → k < st.2 + nIns (.insert dep d :: ops) := fun k hk => by
        rw [nIns]; omega
      rw [e]
      exact ih _ hd.2 (fun k hk => hσ k (hle k hk)) (fun k hk => hτ k (hle k hk))

theorem stepI_count (σ : Nat → Nat) (τ : Nat → SysTag) (ops : List SOp) (st : StagesBuilder × Nat) :
    (ops.foldl (SOp.stepI σ τ) st).2 = st.2 + nIns ops := by
  induction ops generalizing st with
  | nil => rfl
  | cons op ops ih =>
    rw [List.foldl_cons, ih]
    cases op with
    | barrier => rfl
    | insert dep d => exact Nat.add_right_comm ..

theorem nIns_append (ops ops' : List SOp) : nIns (ops ++ ops') = nIns ops + nIns ops' := by
  induction ops with
  | nil => rw [List.nil_append, nIns, Nat.zero_add]
  | cons o ops ih =>
    cases o with
    | barrier => exact ih
    | insert dep d => rw [List.cons_append, nIns, nIns, ih, Nat.add_right_comm]

theorem depsBelow_append {n : Nat} {ops ops' : List SOp} (h : DepsBelow n ops) (h' : DepsBelow (n + nIns ops) ops') :
    DepsBelow n (ops ++ ops') := by
  induction ops generalizing n with
  | nil => exact h'
  | cons o ops ih =>
    cases o with
    | barrier => exact ih h h'
    | insert dep d => exact ⟨h.1, ih h.2 (by rw [nIns, Nat.add_comm (nIns ops), ← Nat.add_assoc] at h'; exact h')⟩

/-- the link between a `DispatcherBuilder` and a resolved registration sequence: `ids` / `tags` are
the ids and tags of the accepted registrations, in order, and a dependency is named in `ops` by
its position in `ids`. `eq` speaks of every `σ`, `τ` that read the two lists, so that it survives
the lists growing at their ends. -/
structure Glue (b : DispatcherBuilder) (ids : List Nat) (tags : List SysTag) (ops : List SOp) : Prop where
  len_ids : ids.length = nIns ops
  len_tags : tags.length = nIns ops
  lt : ∀ i, i ∈ ids → i < b.currentId
  sorted : ids.Pairwise (· < ·)
  map_ids : ∀ p, p ∈ b.map → p.2 ∈ ids
  deps : DepsBelow 0 ops
  eq : ∀ (σ : Nat → Nat) (τ : Nat → SysTag), (∀ k, (h : k < ids.length) → σ k = ids[k]) →
        (∀ k, k < tags.length → τ k = tags.getD k 0) →
        b.stagesBuilder = (ops.foldl (SOp.stepI σ τ) ({}, 0)).1

theorem glue_init : Glue {} [] [] [] where
  len_ids := rfl
  len_tags := rfl
  lt := nofun
  sorted := .nil
  map_ids := nofun
  deps := trivial
  eq _ _ _ _ := rfl

namespace Glue
variable {b : DispatcherBuilder} {ids : List Nat} {tags : List SysTag} {ops : List SOp} (h : Glue b ids tags ops)
include h

theorem bump : Glue { b with currentId := b.currentId + 1 } ids tags ops :=
  { h with lt := fun i hi => Nat.lt_succ_of_lt (h.lt i hi) }

theorem barrier : Glue b.addBarrier ids tags (ops ++ [.barrier]) :=
  { h with
    len_ids := (nIns_append ..).symm ▸ h.len_ids
    len_tags := (nIns_append ..).symm ▸ h.len_tags
    deps := depsBelow_append h.deps trivial
    eq := fun σ τ hσ hτ => by
      rw [List.foldl_append]
      simp only [List.foldl, DispatcherBuilder.addBarrier, SOp.stepI, h.eq σ τ hσ hτ] }

/-- an accepted `add`: the dependencies are ids of earlier accepted registrations; their positions in `ids`
are the dependency list of the new operation -/
theorem accept {dependencies : List SysId} (hdep : ∀ x, x ∈ dependencies → x ∈ ids) (m' : List (String × SysId))
    (hm' : ∀ p, p ∈ m' → p ∈ b.map ∨ p.2 = b.currentId) (tag : SysTag) (d : Decl) :
    Glue ⟨b.currentId + 1, m', b.stagesBuilder.insert dependencies b.currentId tag d, b.threadLocal⟩
      (ids ++ [b.currentId]) (tags ++ [tag]) (ops ++ [.insert (dependencies.map fun x => ids.idxOf x) d]) := by
  have hidx : ∀ x, x ∈ ids → ids.idxOf x < ids.length := fun x hx => List.idxOf_lt_length_of_mem hx
  constructor
  case len_ids => rw [nIns_append, List.length_append, h.len_ids]; rfl
  case len_tags => rw [nIns_append, List.length_append, h.len_tags]; rfl
  case lt =>
    intro i hi
    rcases List.mem_append.mp hi with hi | hi
    · exact Nat.lt_succ_of_lt (h.lt i hi)
    · rw [List.mem_singleton.mp hi]; exact Nat.lt_succ_self _
  case sorted =>
    rw [List.pairwise_append]
    exact ⟨h.sorted, List.pairwise_singleton _ _, fun a ha c hc => by rw [List.mem_singleton.mp hc]; exact h.lt a ha⟩
  case map_ids =>
    intro p hp
    rcases hm' p hp with hp' | hp'
    · exact List.mem_append_left _ (h.map_ids p hp')
    · rw [hp']; exact List.mem_append_right _ (List.mem_singleton_self _)
  case deps =>
    refine depsBelow_append h.deps ⟨fun k hk => ?_, trivial⟩
    obtain ⟨x, hx, rfl⟩ := List.mem_map.mp hk
    rw [Nat.zero_add, ← h.len_ids]
    exact hidx x (hdep x hx)
  case eq =>
    -- `σ`, `τ` read the longer lists, hence the shorter ones (`h.eq` applies) and, at the new position, the
    -- id and tag of this registration
    intro σ τ hσ hτ
    have snoc : ∀ (l : List Nat) a, l.length < (l ++ [a]).length := fun l a => by
      rw [List.length_append]; exact Nat.lt_succ_self _
    have hl := snoc ids b.currentId
    have hl' := snoc tags tag
    have hσ' : ∀ k, (hk : k < ids.length) → σ k = ids[k] := fun k hk =>
      (hσ k (Nat.lt_trans hk hl)).trans (List.getElem_append_left hk)
    have hτ' : ∀ k, k < tags.length → τ k = tags.getD k 0 := fun k hk => by
      rw [hτ k (Nat.lt_trans hk hl'), List.getD_eq_getElem?_getD, List.getElem?_append_left hk,
        List.getD_eq_getElem?_getD]
    have hcount : (ops.foldl (SOp.stepI σ τ) ({}, 0)).2 = ids.length := by
      rw [stepI_count, h.len_ids]; exact Nat.zero_add _
    have e1 : (dependencies.map fun x => ids.idxOf x).map σ = dependencies := by
      rw [List.map_map]
      refine (List.map_congr_left fun x hx => ?_).trans (List.map_id _)
      exact (hσ' _ (hidx x (hdep x hx))).trans (List.getElem_idxOf _)
    have e2 : σ ids.length = b.currentId := (hσ _ hl).trans (List.getElem_concat_length rfl _)
    have e3 : τ ids.length = tag := by
      rw [h.len_ids, ← h.len_tags, hτ _ hl', List.getD_eq_getElem?_getD, List.getElem?_concat_length]; rfl
    rw [List.foldl_append]
    show _ = StagesBuilder.insert _ (List.map σ _) (σ _) (τ _) d
    rw [hcount, e1, e2, e3, ← h.eq σ τ hσ' hτ']

end Glue

theorem glue_step {b : DispatcherBuilder} {ids : List Nat} {tags : List SysTag} {ops : List SOp}
    (h : Glue b ids tags ops) (bop : BOp) : ∃ ids' tags' ops', Glue (bop.step b) ids' tags' ops' := by
  cases bop with
  | barrier => exact ⟨_, _, _, h.barrier⟩
  | add tag name deps d =>
    simp only [BOp.step]
    rcases DispatcherBuilder.add_cases b tag name deps d with
      ⟨_, _, he⟩ | ⟨_, _, _, _, he⟩ | ⟨dependencies, hr, _, he⟩ <;> rw [he]
    · exact ⟨_, _, _, h.bump⟩
    · exact ⟨_, _, _, h.bump⟩
    · refine ⟨_, _, _, h.accept (dependencies := dependencies) (fun x hx => ?_) _ (fun p hp => ?_) tag d⟩
      · obtain ⟨p, hp, rfl⟩ := DispatcherBuilder.resolve_ok_mem hr hx
        exact h.map_ids p hp
      · split at hp
        · exact .inl hp
        · rcases List.mem_cons.mp hp with rfl | hp
          · exact .inr rfl
          · exact .inl hp

theorem glue_run (bops : List BOp) : ∀ {b ids tags ops}, Glue b ids tags ops →
    ∃ ids' tags' ops', Glue (bops.foldl BOp.step b) ids' tags' ops' := by
  induction bops with
  | nil => exact fun h => ⟨_, _, _, h⟩
  | cons bop bops ih => exact fun h => let ⟨_, _, _, h'⟩ := glue_step h bop; ih h'

/-- the numbering read off the list of ids of the accepted registrations; beyond the list an
injective default that stays clear of every id below `m` -/
def numOf (ids : List Nat) (m : Nat) (n : Nat) : Nat := if h : n < ids.length then ids[n] else m + n

theorem numOf_lt {ids : List Nat} {m n : Nat} (h : n < ids.length) : numOf ids m n = ids[n] := dif_pos h
theorem numOf_ge {ids : List Nat} {m n : Nat} (h : ¬ n < ids.length) : numOf ids m n = m + n := dif_neg h

theorem numOf_inj (ids : List Nat) (m : Nat) (hs : ids.Pairwise (· < ·)) (hlt : ∀ i, i ∈ ids → i < m) :
    ∀ a b, numOf ids m a = numOf ids m b → a = b := by
  have mono : ∀ a b (ha : a < ids.length) (hb : b < ids.length), a < b → ids[a] ≠ ids[b] := fun a b ha hb hab =>
    Nat.ne_of_lt (List.pairwise_iff_getElem.mp hs a b ha hb hab)
  have far : ∀ a b (ha : a < ids.length), ids[a] ≠ m + b := fun a b ha e =>
    Nat.not_lt.mpr (Nat.le_add_right m b) (e ▸ hlt _ (List.getElem_mem ha))
  intro a b h
  by_cases ha : a < ids.length <;> by_cases hb : b < ids.length
  · rw [numOf_lt ha, numOf_lt hb] at h
    rcases Nat.lt_trichotomy a b with hab | hab | hab
    · exact absurd h (mono a b ha hb hab)
    · exact hab
    · exact absurd h.symm (mono b a hb ha hab)
  · rw [numOf_lt ha, numOf_ge hb] at h; exact absurd h (far a b ha)
  · rw [numOf_ge ha, numOf_lt hb] at h; exact absurd h.symm (far b a hb)
  · rw [numOf_ge ha, numOf_ge hb] at h; exact Nat.add_left_cancel h

/-- **the `StagesBuilder` inside any `DispatcherBuilder` is a `stepI` fold**: whatever sequence of
`add` (accepted or rejected) and `add_barrier` calls produced it, there are a list of resolved
registrations whose dependencies point to earlier ones, an injective numbering and a tagging that
reproduce it. -/
theorem builder_is_stepI (bops : List BOp) :
    ∃ (ops : List SOp) (σ : Nat → Nat) (τ : Nat → SysTag), (∀ a b, σ a = σ b → a = b) ∧ DepsBelow 0 ops ∧
      (bops.foldl BOp.step {}).stagesBuilder = (ops.foldl (SOp.stepI σ τ) ({}, 0)).1 := by
  obtain ⟨ids, tags, ops, h⟩ := glue_run bops glue_init
  refine ⟨ops, numOf ids (bops.foldl BOp.step {}).currentId, (tags.getD · 0), ?_, h.deps, ?_⟩
  · exact numOf_inj ids _ h.sorted h.lt
  · exact h.eq _ _ (fun k hk => numOf_lt hk) fun _ _ => rfl

def regOf : List SOp → Nat → List Nat × Decl
  | [], _ => ([], ⟨[], [], 0⟩)
  | .barrier :: ops, k => regOf ops k
  | .insert dep d :: _, 0 => (dep, d)
  | .insert _ _ :: ops, k + 1 => regOf ops k

theorem consistent_of_depsBelow {D : Nat → Decl} {Dep : Nat → List Nat} {n : Nat} {ops : List SOp}
    (h : DepsBelow n ops) (hreg : ∀ k, k < nIns ops → (Dep (n + k), D (n + k)) = regOf ops k) :
    Consistent D Dep n ops := by
  induction ops generalizing n with
  | nil => trivial
  | cons op ops ih =>
    cases op with
    | barrier => exact ih h hreg
    | insert dep d =>
      have e : ∀ k, n + 1 + k = n + (k + 1) := fun k => by omega
      have h0 := hreg 0 (Nat.succ_pos _)
      exact ⟨congrArg Prod.snd h0, congrArg Prod.fst h0, h.1,
        ih h.2 fun k hk => e k ▸ hreg (k + 1) (Nat.succ_lt_succ hk)⟩

theorem consistent_regOf {ops : List SOp} (h : DepsBelow 0 ops) :
    Consistent (fun k => (regOf ops k).2) (fun k => (regOf ops k).1) 0 ops :=
  consistent_of_depsBelow h fun k _ => by rw [Nat.zero_add]

theorem builder_eq_relabel (bops : List BOp) :
    ∃ (sc : Scenario) (σ : Nat → Nat) (τ : Nat → SysTag), (∀ a b, σ a = σ b → a = b) ∧
      (bops.foldl BOp.step {}).stagesBuilder = sc.final.b.relabel σ τ := by
  obtain ⟨ops, σ, τ, hσ, hdeps, heq⟩ := builder_is_stepI bops
  refine ⟨{ ops := ops, D := fun k => (regOf ops k).2, Dep := fun k => (regOf ops k).1,
            consistent := consistent_regOf hdeps, tl := [], tl_nodup := .nil, tl_fresh := nofun }, σ, τ, hσ, ?_⟩
  rw [heq, runOpsI_eq hσ]
  exact congrArg (fun st => StagesBuilder.relabel σ τ st.1) (gstate_foldl ops {}).symm

/-- **every `DispatcherBuilder` is a `Scenario` up to numbering and tagging.** -/
theorem builder_is_scenario (bops : List BOp) :
    ∃ (sc : Scenario) (σ : Nat → Nat) (τ : Nat → SysTag), (∀ a b, σ a = σ b → a = b) ∧
      let b := (bops.foldl BOp.step {}).stagesBuilder
      b.ids = mapIds σ sc.final.b.ids ∧ b.stages = mapT τ sc.final.b.stages ∧
      b.reads = sc.final.b.reads ∧ b.writes = sc.final.b.writes ∧
      b.runningTime = sc.final.b.runningTime ∧ b.barrier = sc.final.b.barrier := by
  obtain ⟨sc, σ, τ, hσ, h⟩ := builder_eq_relabel bops
  exact ⟨sc, σ, τ, hσ, StagesBuilder.eq_relabel_iff.mp h⟩

end Shred
