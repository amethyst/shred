import ShredModel.Lemmas.ParSeq
/-!
# The token machine `PS.build` (C16)

`PS.build` is what the driver runs; it mirrors how the harness calls the real `Par::new/with`,
`Seq::new/with`. It can only return a tree all of whose `Par` nodes passed the debug check, because
every `Par` node it makes comes out of `parOf`. And on the token list of a shape `Sh` as the macros are
written (a leaf, or `par![k0, k1, ..]` / `seq![k0, k1, ..]` with at least one child) it is the bottom-up
construction with `parOf` / `seqOf`, children left to right, then the node, and the first panicking
`with` is reported as (position of the node's opening token, child index).
-/
namespace Shred
namespace PS

section
variable {decl : Nat → Decl}

def KidsChecked (decl : Nat → Decl) (st : List Frame) : Prop :=
  ∀ f, f ∈ st → ∀ c, c ∈ f.kids → Checked decl c

theorem kidsChecked_nil : KidsChecked decl [] := nofun

theorem kidsChecked_cons {f : Frame} {fs : List Frame} :
    KidsChecked decl (f :: fs) ↔ (∀ c, c ∈ f.kids → Checked decl c) ∧ KidsChecked decl fs :=
  List.forall_mem_cons

/-- What a step of the machine keeps. A stopped machine owes nothing, so for it the claim is only that it
did not stop with `built`; this is what lets `buildGo_checked` run through. -/
inductive StepOk (decl : Nat → Decl) : Step → Prop
  | stop {r : BuildResult} : (∀ t, r ≠ .built t) → StepOk decl (.stop r)
  | cont {st : List Frame} {d : Option PS} :
      KidsChecked decl st → (∀ t, d = some t → Checked decl t) → StepOk decl (.cont st d)

theorem push_checked {v : PS} {st : List Frame} (hv : Checked decl v) (hst : KidsChecked decl st) :
    StepOk decl (push v st) := by
  cases st with
  | nil => exact .cont hst fun t ht => Option.some.inj ht ▸ hv
  | cons f fs =>
    obtain ⟨hf, hfs⟩ := kidsChecked_cons.mp hst
    exact .cont (kidsChecked_cons.mpr ⟨List.forall_mem_cons.mpr ⟨hv, hf⟩, hfs⟩) nofun

theorem stepTok_checked (tok : Tok) (pos : Nat) {st : List Frame} (hst : KidsChecked decl st) :
    StepOk decl (stepTok decl tok pos st) := by
  have opened (b : Bool) : KidsChecked decl (⟨b, pos, []⟩ :: st) := kidsChecked_cons.mpr ⟨nofun, hst⟩
  cases tok with
  | openPar => exact .cont (opened true) nofun
  | openSeq => exact .cont (opened false) nofun
  | leaf s => exact push_checked trivial hst
  | close =>
    cases st with
    | nil => exact .stop nofun
    | cons f fs =>
      obtain ⟨hf, hfs⟩ := kidsChecked_cons.mp hst
      rw [stepTok]
      split
      · exact .stop nofun                            -- a node without children: malformed
      · next c0 cs hk =>
        have hkids : ∀ c, c ∈ c0 :: cs → Checked decl c := fun c hc => hf c (List.mem_reverse.mp (hk ▸ hc))
        split
        · split                                      -- a `Par` node: panic, or the tree of `parOf`
          · exact .stop nofun
          · next v hv => exact push_checked (checked_parOf hkids hv) hfs
        · exact push_checked (checked_seqOf hkids) hfs

theorem buildGo_checked {t : PS} (toks : List Tok) : ∀ (pos : Nat) (st : List Frame) (d : Option PS),
    KidsChecked decl st → (∀ t, d = some t → Checked decl t) → buildGo decl toks pos st d = .built t →
      Checked decl t := by
  induction toks with
  | nil =>
    intro pos st d _ hd he
    cases st <;> cases d <;> simp [buildGo] at he
    exact hd _ (he ▸ rfl)
  | cons tok toks ih =>
    intro pos st d hst _ he
    cases d with
    | some v => simp [buildGo] at he
    | none =>
      have hs := stepTok_checked tok pos hst
      rw [buildGo] at he
      generalize stepTok decl tok pos st = r at hs he
      cases hs with
      | stop hr => exact absurd he (hr t)
      | cont hst' hd' => exact ih _ _ _ hst' hd' he

/-- whatever `build` returns passed every debug check -/
theorem build_checked {toks : List Tok} {t : PS} (h : build decl toks = .built t) : Checked decl t :=
  buildGo_checked toks 0 [] none kidsChecked_nil nofun h

end

mutual
inductive Sh
  | leaf (s : Nat)
  | node (isPar : Bool) (kids : Kids)
inductive Kids
  | one (c : Sh)
  | cons (c : Sh) (rest : Kids)
end

mutual
def Sh.toks : Sh → List Tok
  | .leaf s => [.leaf s]
  | .node p ks => (if p then Tok.openPar else Tok.openSeq) :: (ks.toks ++ [Tok.close])
def Kids.toks : Kids → List Tok
  | .one c => c.toks
  | .cons c r => c.toks ++ r.toks
end

mutual
/-- `pos` = position of the shape's first token in the whole token list -/
def Sh.eval (decl : Nat → Decl) : Sh → Nat → Except (Nat × Nat) PS
  | .leaf s, _ => .ok (.leaf s)
  | .node p ks, pos =>
    match ks.eval decl (pos + 1) with
    | .error e => .error e
    | .ok (c0, cs) =>
      if p then
        match parOf decl c0 cs with
        | .ok t => .ok t
        | .error k => .error (pos, k)
      else .ok (seqOf c0 cs)
/-- first child and the remaining children -/
def Kids.eval (decl : Nat → Decl) : Kids → Nat → Except (Nat × Nat) (PS × List PS)
  | .one c, pos =>
    match c.eval decl pos with
    | .error e => .error e
    | .ok v => .ok (v, [])
  | .cons c r, pos =>
    match c.eval decl pos with
    | .error e => .error e
    | .ok v =>
      match r.eval decl (pos + c.toks.length) with
      | .error e => .error e
      | .ok (v', vs) => .ok (v, v' :: vs)
end

/-- what the machine does with a finished value -/
def afterPush (decl : Nat → Decl) (v : PS) (rest : List Tok) (pos : Nat) (st : List Frame) : BuildResult :=
  match st with
  | [] => buildGo decl rest pos [] (some v)
  | f :: fs => buildGo decl rest pos ({ f with kids := v :: f.kids } :: fs) none

theorem buildGo_leaf (decl : Nat → Decl) (s : Nat) (rest : List Tok) (pos : Nat) (st : List Frame) :
    buildGo decl (Tok.leaf s :: rest) pos st none = afterPush decl (.leaf s) rest (pos + 1) st := by
  cases st <;> rfl

theorem buildGo_open (decl : Nat → Decl) (p : Bool) (rest : List Tok) (pos : Nat) (st : List Frame) :
    buildGo decl ((if p then Tok.openPar else Tok.openSeq) :: rest) pos st none
      = buildGo decl rest (pos + 1) (⟨p, pos, []⟩ :: st) none := by
  cases p <;> rfl

theorem buildGo_close (decl : Nat → Decl) (p : Bool) (id : Nat) (c0 : PS) (cs : List PS) (rest : List Tok)
    (pos : Nat) (st : List Frame) :
    buildGo decl (Tok.close :: rest) pos (⟨p, id, (c0 :: cs).reverse⟩ :: st) none =
      if p then
        match parOf decl c0 cs with
        | .ok t => afterPush decl t rest (pos + 1) st
        | .error k => .panic id k
      else afterPush decl (seqOf c0 cs) rest (pos + 1) st := by
  rw [buildGo, stepTok]
  simp only [List.reverse_reverse]
  cases p
  · cases st <;> rfl
  · cases parOf decl c0 cs <;> cases st <;> rfl

mutual
theorem buildGo_sh (decl : Nat → Decl) : (s : Sh) → (rest : List Tok) → (pos : Nat) → (st : List Frame) →
    buildGo decl (s.toks ++ rest) pos st none =
      match s.eval decl pos with
      | .error (n, k) => .panic n k
      | .ok v => afterPush decl v rest (pos + s.toks.length) st
  | .leaf s, rest, pos, st => buildGo_leaf decl s rest pos st
  | .node p ks, rest, pos, st => by
    have hlen : pos + (Sh.node p ks).toks.length = pos + 1 + ks.toks.length + 1 := by
      rw [Sh.toks, List.length_cons, List.length_append, List.length_singleton]; omega
    rw [hlen, Sh.toks, Sh.eval, List.cons_append, List.append_assoc, buildGo_open]
    refine (buildGo_kids decl ks (Tok.close :: rest) (pos + 1) ⟨p, pos, []⟩ st).trans ?_
    cases ks.eval decl (pos + 1) with
    | error e => rfl
    | ok r =>
      obtain ⟨c0, cs⟩ := r
      simp only [List.append_nil]
      rw [buildGo_close]
      cases p
      · rfl
      · cases parOf decl c0 cs <;> rfl
theorem buildGo_kids (decl : Nat → Decl) : (ks : Kids) → (rest : List Tok) → (pos : Nat) → (f : Frame) → (fs : List Frame) →
    buildGo decl (ks.toks ++ rest) pos (f :: fs) none =
      match ks.eval decl pos with
      | .error (n, k) => .panic n k
      | .ok (v, vs) =>
        buildGo decl rest (pos + ks.toks.length) ({ f with kids := (v :: vs).reverse ++ f.kids } :: fs) none
  | .one c, rest, pos, f, fs => by
    rw [Kids.toks, Kids.eval, buildGo_sh decl c rest pos (f :: fs)]
    cases c.eval decl pos <;> rfl
  | .cons c r, rest, pos, f, fs => by
    rw [Kids.toks, Kids.eval, List.append_assoc, buildGo_sh decl c (r.toks ++ rest) pos (f :: fs)]
    cases c.eval decl pos with
    | error e => rfl
    | ok v =>
      refine (buildGo_kids decl r rest (pos + c.toks.length) { f with kids := v :: f.kids } fs).trans ?_
      cases r.eval decl (pos + c.toks.length) with
      | error e => rfl
      | ok q =>
        obtain ⟨v', vs⟩ := q
        simp only [List.length_append, Nat.add_assoc, List.reverse_cons, List.append_assoc, List.cons_append,
          List.nil_append]
end

end PS
end Shred
