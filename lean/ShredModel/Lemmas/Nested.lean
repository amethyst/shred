import ShredModel.Model.Nested
import ShredModel.Lemmas.PlanTask
import ShredModel.Lemmas.Dispatch
/-!
# Dispatchers with batches: well-formedness, distinct instances, order — at any nesting depth

A `Level D` is everything the trace theorems need about one built dispatcher whose batches were
built the same way: an isolated table, distinct tags, good bodies. `BodyOK D b d` is what the
outer level needs to know about the body `b` a batch contributes when the batch is registered
with declaration `d`: the body is well-formed for every instance, everything inside is
*covered* by `d` (reads ⊆ reads, writes ⊆ writes — C07's union), and its instances extend the
batch's instance. A level's bodies are `BodyOK`, and `Level.body` makes an inner level (without
thread-local systems) a `BodyOK` body: the two compose to any depth.
-/
namespace Shred
open Shred.Task

def lastTag (i : Inst) : SysTag := i.getLast?.getD 0

@[simp] theorem lastTag_snoc (p : Inst) (t : SysTag) : lastTag (p ++ [t]) = t := by
  simp [lastTag]

/-- compatibility of two system instances: their systems' declarations do not conflict -/
def CompatI (D : SysTag → Decl) (x y : Inst) : Prop := ¬ conflictsD (D (lastTag x)) (D (lastTag y))

theorem compatI_symm (D : SysTag → Decl) (x y : Inst) : CompatI D x y → CompatI D y x :=
  compatD_symm D (lastTag x) (lastTag y)

def Sub (a b : Decl) : Prop := (∀ x, x ∈ a.reads → x ∈ b.reads) ∧ (∀ x, x ∈ a.writes → x ∈ b.writes)

theorem Sub.refl (a : Decl) : Sub a a := ⟨fun _ h => h, fun _ h => h⟩
theorem Sub.trans {a b c : Decl} (h1 : Sub a b) (h2 : Sub b c) : Sub a c :=
  ⟨fun x h => h2.1 x (h1.1 x h), fun x h => h2.2 x (h1.2 x h)⟩

theorem conflictsD_mono {a a' b b' : Decl} (ha : Sub a a') (hb : Sub b b') (h : conflictsD a b) :
    conflictsD a' b' := by
  unfold conflictsD at *
  rcases h with ⟨x, hx, hy⟩ | ⟨x, hx, hy⟩
  · left
    refine ⟨x, ha.2 x hx, ?_⟩
    rcases hy with hy | hy
    · exact Or.inl (hb.2 x hy)
    · exact Or.inr (hb.1 x hy)
  · right
    exact ⟨x, ha.1 x hx, hb.2 x hy⟩

structure BodyOK (D : SysTag → Decl) (b : Body) (d : Decl) : Prop where
  wf : ∀ inst, WF (CompatI D) (b inst)
  cover : ∀ inst y, y ∈ (b inst).sys → Sub (D (lastTag y)) d
  under : ∀ inst y, y ∈ (b inst).sys → ∃ rest, rest ≠ [] ∧ y = inst ++ rest
  nodup : ∀ inst, (b inst).sys.Nodup

def BodiesOK (D : SysTag → Decl) (bs : List (SysTag × Body)) : Prop :=
  ∀ t b, findBody bs t = some b → BodyOK D b (D t)

theorem mem_sys_leafOf {bs : List (SysTag × Body)} {pfx : Inst} {t : SysTag} {y : Inst} :
    y ∈ (leafOf bs pfx t).sys ↔
      y = pfx ++ [t] ∨ ∃ b, findBody bs t = some b ∧ y ∈ (b (pfx ++ [t])).sys := by
  unfold leafOf
  cases findBody bs t <;> simp [Task.sys]

theorem cover_leafOf {D : SysTag → Decl} {bs : List (SysTag × Body)} (hbs : BodiesOK D bs) {pfx : Inst}
    {t : SysTag} {y : Inst} (hy : y ∈ (leafOf bs pfx t).sys) : Sub (D (lastTag y)) (D t) := by
  rcases mem_sys_leafOf.mp hy with rfl | ⟨b, hb, hy⟩
  · rw [lastTag_snoc]; exact Sub.refl _
  · exact (hbs t b hb).cover _ y hy

theorem under_leafOf {D : SysTag → Decl} {bs : List (SysTag × Body)} (hbs : BodiesOK D bs) {pfx : Inst}
    {t : SysTag} {y : Inst} (hy : y ∈ (leafOf bs pfx t).sys) : ∃ rest, y = pfx ++ t :: rest := by
  rcases mem_sys_leafOf.mp hy with rfl | ⟨b, hb, hy⟩
  · exact ⟨[], rfl⟩
  · obtain ⟨rest, _, rfl⟩ := (hbs t b hb).under _ y hy
    exact ⟨rest, List.append_assoc ..⟩

theorem wf_leafOf {D : SysTag → Decl} {bs : List (SysTag × Body)} (hbs : BodiesOK D bs) (pfx : Inst) (t : SysTag) :
    WF (CompatI D) (leafOf bs pfx t) := by
  unfold leafOf
  cases hb : findBody bs t with
  | none => trivial
  | some b => exact (hbs t b hb).wf _

theorem nodup_leafOf {D : SysTag → Decl} {bs : List (SysTag × Body)} (hbs : BodiesOK D bs) (pfx : Inst)
    (t : SysTag) : (leafOf bs pfx t).sys.Nodup := by
  unfold leafOf
  cases hb : findBody bs t with
  | none => exact List.pairwise_singleton _ _
  | some b =>
    refine List.nodup_cons.mpr ⟨fun hmem => ?_, (hbs t b hb).nodup _⟩
    obtain ⟨rest, hne, he⟩ := (hbs t b hb).under _ _ hmem
    exact hne (List.append_right_eq_self.mp he.symm)

/-- the tag an instance carries right behind the prefix `p`: what tells the instances of
different systems of one dispatcher (different iterations of one batch) apart -/
def tagAt (p y : Inst) : SysTag := y[p.length]?.getD 0

theorem tagAt_append (p rest : Inst) (t : SysTag) : tagAt p (p ++ t :: rest) = t := by simp [tagAt]

/-- the controller's loop is the sequence of its inner dispatches -/
theorem iterBody_eq_seqN (inner : Inst → Task Inst) (inst : Inst) (n i : Nat) :
    iterBody inner inst n i = seqN ((List.range' i n).map fun j => inner (inst ++ [j])) := by
  induction n generalizing i with
  | zero => rfl
  | succ n ih => rw [iterBody, ih, List.range'_succ]; rfl

theorem sys_iterBody (inner : Inst → Task Inst) (inst : Inst) (n i : Nat) :
    (iterBody inner inst n i).sys = (List.range' i n).flatMap fun j => (inner (inst ++ [j])).sys := by
  rw [iterBody_eq_seqN, sys_seqN_map]

theorem wf_iterBody {C : Inst → Inst → Prop} (inner : Inst → Task Inst) (h : ∀ p, WF C (inner p)) (inst : Inst)
    (n i : Nat) : WF C (iterBody inner inst n i) := by
  rw [iterBody_eq_seqN]; exact wf_seqN_map fun j _ => h _

structure Level (D : SysTag → Decl) where
  stages : Table (List SysTag)
  tl : List SysTag
  bs : List (SysTag × Body)
  iso : IsoTable D stages
  tags : (stages.flatten.flatten ++ tl).Nodup
  bodies : BodiesOK D bs

namespace Level
variable {D : SysTag → Decl} (L : Level D)

/-- one `dispatch` (`par`) or `dispatch_seq; dispatch_thread_local` of the level -/
def task (par : Bool) (pfx : Inst) : Task Inst := nDispatchTask par L.stages L.tl L.bs pfx

theorem wf (par : Bool) (pfx : Inst) : WF (CompatI D) (L.task par pfx) :=
  wf_dispatchOf (par := par) (f := leafOf L.bs pfx) (k := (pfx ++ [·])) (tl := L.tl)
    (hf := wf_leafOf L.bodies pfx)
    (hR := fun a c hac x hx y hy hcf =>
      hac (conflictsD_mono (cover_leafOf L.bodies hx) (cover_leafOf L.bodies hy) hcf))
    (hiso := L.iso)

theorem nodup (par : Bool) (pfx : Inst) : (L.task par pfx).sys.Nodup := by
  refine nodup_dispatchOf (par := par) (f := leafOf L.bs pfx) (k := (pfx ++ [·])) (tag := tagAt pfx)
    (hf := nodup_leafOf L.bodies pfx) (htf := ?_) (htk := fun u => tagAt_append pfx [] u) L.tags
  intro t y hy
  obtain ⟨rest, rfl⟩ := under_leafOf L.bodies hy
  exact tagAt_append pfx rest t

/-- batches included: under `dispatch_seq` too their controllers call `dispatch` on the inner
dispatcher, so the bodies do not depend on `par` -/
theorem seqTrace_task (par : Bool) (pfx : Inst) : (L.task par pfx).seqTrace = (L.task false pfx).seqTrace :=
  seqTrace_dispatchOf par _ _ L.stages L.tl

/-- **C07, composition step: an inner level becomes the body of a batch** declared with any `d`
that covers the inner systems' declarations — in particular the one `add_batch` computes. No
thread-local systems inside: this is where the open finding KF1 enters. -/
theorem body (htl : L.tl = []) (par : Bool) (n : Nat) (d : Decl)
    (hd : ∀ t, t ∈ L.stages.flatten.flatten → Sub (D t) d) :
    BodyOK D (batchBody par L.stages [] L.bs n) d := by
  -- the body is the level's own dispatch, iterated
  have hbody : batchBody par L.stages [] L.bs n = fun inst => iterBody (L.task par) inst n 0 := by
    unfold batchBody Level.task; rw [htl]
  have hdisp : ∀ p y, y ∈ (L.task par p).sys → ∃ t, t ∈ L.stages.flatten.flatten ∧ y ∈ (leafOf L.bs p t).sys := by
    intro p y hy
    rw [Level.task, nDispatchTask_eq, sys_dispatchOf, htl, List.map_nil, List.append_nil] at hy
    exact List.mem_flatMap.mp hy
  have hsys : ∀ inst y, y ∈ (iterBody (L.task par) inst n 0).sys →
      ∃ j t, t ∈ L.stages.flatten.flatten ∧ y ∈ (leafOf L.bs (inst ++ [j]) t).sys := by
    intro inst y hy
    rw [sys_iterBody] at hy
    obtain ⟨j, _, hyj⟩ := List.mem_flatMap.mp hy
    exact ⟨j, hdisp _ y hyj⟩
  rw [hbody]
  refine { wf := fun inst => wf_iterBody _ (L.wf par) inst n 0, cover := ?cover, under := ?under,
           nodup := ?nodup }
  case cover =>
    intro inst y hy
    obtain ⟨j, t, ht, hyt⟩ := hsys inst y hy
    exact (cover_leafOf L.bodies hyt).trans (hd t ht)
  case under =>
    intro inst y hy
    obtain ⟨j, t, _, hyt⟩ := hsys inst y hy
    obtain ⟨rest, rfl⟩ := under_leafOf L.bodies hyt
    exact ⟨j :: t :: rest, List.cons_ne_nil _ _, List.append_assoc ..⟩
  case nodup =>
    intro inst
    rw [sys_iterBody]
    refine nodup_flatMap_of_key (tagAt inst) (List.nodup_range' (step := 1))
      (fun j => L.nodup par _) ?_
    intro j y hy
    obtain ⟨t, _, hyt⟩ := hdisp _ y hy
    obtain ⟨rest, rfl⟩ := under_leafOf L.bodies hyt
    rw [List.append_assoc]
    exact tagAt_append inst _ j

variable {L} {par : Bool} {pfx : Inst} {l : List (Ev Inst)}

theorem isolated (hl : Traces (L.task par pfx) l) {p : List (Ev Inst)} (hp : p <+: l) {x y : Inst} (hxy : x ≠ y)
    (hx : OpenIn x p) (hy : OpenIn y p) :
    Anc (L.task par pfx) x y ∨ Anc (L.task par pfx) y x ∨ ¬ conflictsD (D (lastTag x)) (D (lastTag y)) :=
  traces_isolated (compatI_symm D) hl (L.wf par pfx) (L.nodup par pfx) p hp x y hxy hx hy

theorem once (hl : Traces (L.task par pfx) l) {x : Inst} (hx : x ∈ (L.task par pfx).sys) :
    l.count (Ev.F x) = 1 ∧ l.count (Ev.D x) = 1 :=
  traces_once hl (L.nodup par pfx) x hx

theorem precedes (hl : Traces (L.task par pfx) l) {x y : Inst} (h : Before (L.task par pfx) x y)
    {l1 l2 : List (Ev Inst)} (hsplit : l = l1 ++ Ev.F y :: l2) : Ev.D x ∈ l1 :=
  traces_before hl (L.nodup par pfx) x y h l1 l2 hsplit

theorem ordered (hl : Traces (L.task par pfx) l) {A B : SysTag} (hAB : TOrdered L.stages A B) {x y : Inst}
    (hx : x ∈ (leafOf L.bs pfx A).sys) (hy : y ∈ (leafOf L.bs pfx B).sys)
    {l1 l2 : List (Ev Inst)} (hsplit : l = l1 ++ Ev.F y :: l2) : Ev.D x ∈ l1 :=
  L.precedes hl (before_dispatchOf_ordered hAB hx hy) hsplit

end Level

theorem before_nested_tl_order (par : Bool) (stages : Table (List SysTag)) {tl : List SysTag}
    (bs : List (SysTag × Body)) (pfx : Inst) {i j : Nat} {u v : SysTag}
    (hi : tl[i]? = some u) (hj : tl[j]? = some v) (hij : i < j) :
    Before (nDispatchTask par stages tl bs pfx) (pfx ++ [u]) (pfx ++ [v]) :=
  before_dispatchOf_tl_order (k := (pfx ++ [·])) hi hj hij

theorem before_nested_inner (par : Bool) {stages : Table (List SysTag)} (tl : List SysTag)
    {bs : List (SysTag × Body)} (pfx : Inst) {t : SysTag} {b : Body} (ht : t ∈ stages.flatten.flatten)
    (hb : findBody bs t = some b) {x y : Inst} (h : Before (b (pfx ++ [t])) x y) :
    Before (nDispatchTask par stages tl bs pfx) x y :=
  before_dispatchOf_inner (f := leafOf bs pfx) ht (by unfold leafOf; rw [hb]; exact .scope h)

theorem before_iterBody_same {inner : Inst → Task Inst} {inst : Inst} {n i j : Nat} (hj : i ≤ j ∧ j < i + n)
    {x y : Inst} (h : Before (inner (inst ++ [j])) x y) : Before (iterBody inner inst n i) x y := by
  rw [iterBody_eq_seqN]
  exact before_seqN_map_of_mem (List.mem_range'_1.mpr hj) h

/-- everything of inner dispatch `i + a` is ordered before everything of inner dispatch `i + b`, `a < b` -/
theorem iterBody_before (inner : Inst → Task Inst) (inst : Inst) {x y : Inst} :
    ∀ (k i a b : Nat), a < b → b < k → x ∈ (inner (inst ++ [i + a])).sys → y ∈ (inner (inst ++ [i + b])).sys →
      Before (iterBody inner inst k i) x y := by
  intro k i a b hab hb hx hy
  rw [iterBody_eq_seqN]
  -- `i + a` and `i + b` are the entries `a` and `b` of `List.range' i k`
  refine before_seqN_map_of_lt (i := a) (j := b) ?_ ?_ hab hx hy
  · rw [List.getElem?_range' (Nat.lt_trans hab hb), Nat.one_mul]
  · rw [List.getElem?_range' hb, Nat.one_mul]

theorem before_iterBody_lt {inner : Inst → Task Inst} {inst : Inst} {n i j j' : Nat}
    (hj : i ≤ j) (hjj : j < j') (hj' : j' < i + n) {x y : Inst}
    (hx : x ∈ (inner (inst ++ [j])).sys) (hy : y ∈ (inner (inst ++ [j'])).sys) :
    Before (iterBody inner inst n i) x y := by
  obtain ⟨a, rfl⟩ := Nat.exists_eq_add_of_le hj
  obtain ⟨b, rfl⟩ := Nat.exists_eq_add_of_le (Nat.le_trans hj (Nat.le_of_lt hjj))
  exact iterBody_before inner inst n i a b (Nat.lt_of_add_lt_add_left hjj) (Nat.lt_of_add_lt_add_left hj') hx hy

end Shred
