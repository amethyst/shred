import ShredModel.Lemmas.World
/-!
# C08 lemmas: the operations

What a `&self` call does: apart from the drop of a guard it is a sequence of borrows taken and
dropped again, the last taken first, and the guards it still holds are those in its answer (`Moves`,
`step_moves`). Two facts are proved of such sequences, once: they keep what taking and dropping
borrows keep (`BorrowClosed`), and dropping what they still hold restores both tables (`Moves.frame`).
The composite fetch is read as the relation `SysDataRel`; `entry` is a table write followed by
`borrow_mut()`. A `&mut` call, faults included, leaves the state after one of five functions, the old
state, or the old state with an unused value dropped (`step_mut_state`).
-/
namespace Shred
open World

/-- a property of worlds that is kept when a borrow is granted and when a guard is dropped. The
`&self` operations do nothing else, so they keep every such property (`step_closed_of_not_mut`):
the invariant, the freshness of handles, the data (`SameData`). -/
structure BorrowClosed (P : World → Prop) : Prop where
  acquire : ∀ {w : World} {k : ResId} {c : Cell} {excl : Bool} {b' : Borrow}, P w → w.get k = some c →
    tryBorrow c.borrow excl = some b' → P (w.acquire k c excl b')
  release : ∀ {w : World} (h : Nat), P w → P (w.release h)

theorem inv_closed : BorrowClosed Inv where
  acquire hw hc hb := inv_acquire hw hc hb
  release h hw := release_inv hw h

theorem handles_closed : BorrowClosed HandlesOk where
  acquire hw _ _ := handles_acquire hw
  release h hw := release_handles hw h

/-- `Moves w hs w'`: `w'` comes from `w` by taking borrows and dropping some of them again, each time
the one taken last; `hs` are the handles of the guards still held, in the order taken. Every `&self`
call other than the drop of a guard is such a sequence, with `hs` the handles in its answer
(`step_moves`). -/
inductive Moves (w : World) : List Nat → World → Prop
  | refl : Moves w [] w
  | acquire {hs w1 k c excl b'} : Moves w hs w1 → w1.get k = some c → tryBorrow c.borrow excl = some b' →
      Moves w (hs ++ [w1.nextHandle]) (w1.acquire k c excl b')
  | undo {hs h w1} : Moves w (hs ++ [h]) w1 → Moves w hs (w1.release h)

theorem Moves.trans {w w1 w2 : World} {hs hs' : List Nat} (h1 : Moves w hs w1) (h2 : Moves w1 hs' w2) :
    Moves w (hs ++ hs') w2 := by
  induction h2 with
  | refl => rwa [List.append_nil]
  | acquire _ hc hb ih => rw [← List.append_assoc]; exact ih.acquire hc hb
  | undo _ ih => exact (List.append_assoc .. ▸ ih).undo

theorem Moves.closed {P : World → Prop} (hP : BorrowClosed P) {w w' : World} {hs : List Nat}
    (h : Moves w hs w') (hw : P w) : P w' := by
  induction h with
  | refl => exact hw
  | acquire _ hc hb ih => exact hP.acquire ih hc hb
  | undo _ ih => exact hP.release _ ih

/-- **unwinding**: dropping the guards still held, last taken first, restores both tables -/
theorem Moves.frame {w w' : World} {hs : List Nat} (h : Moves w hs w') (hw : Inv w) (hh : HandlesOk w) :
    SameTables (releaseAll w' hs.reverse) w := by
  induction h with
  | refl => exact .refl w
  | acquire hm hc hb ih =>
    -- the borrow taken last is dropped first: that restores the tables of `w1`; then the rest
    have h1 := acquire_release (hm.closed inv_closed hw) (hm.closed handles_closed hh) hc hb
    rw [List.reverse_append]
    exact (h1.releaseAll _).trans ih
  | undo _ ih => rwa [List.reverse_append] at ih

/-- the end of a closure: dropping guards last taken first continues the sequence -/
theorem Moves.releaseAll {w w' : World} {hs : List Nat} (l : List Nat) (h : Moves w (hs ++ l.reverse) w') :
    Moves w hs (releaseAll w' l) := by
  induction l generalizing w' with
  | nil => rwa [List.reverse_nil, List.append_nil] at h
  | cons x t ih =>
    rw [List.reverse_cons, ← List.append_assoc] at h
    exact ih h.undo

/-- behind a type-id assertion (the by-id fetches) -/
theorem Moves.asserted {w : World} {r : World × Out} (h : Moves w (handlesOf r.2) r.1) (c : Prop)
    [Decidable c] :
    Moves w (handlesOf (if c then (w, .panic .wrongType) else r).2)
      (if c then (w, .panic .wrongType) else r).1 := by
  split
  · exact .refl
  · exact h

theorem fetchCore_moves (w : World) (k : ResId) (excl : Bool) (f : Form) (orPanic : Bool) :
    Moves w (handlesOf (w.fetchCore k excl f orPanic).2) (w.fetchCore k excl f orPanic).1 := by
  rcases fetchCore_cases w k excl f orPanic with ⟨_, he⟩ | ⟨c, _, _, he⟩ | ⟨c, b', hc, hb, he⟩ <;> rw [he]
  · cases orPanic <;> exact .refl
  · exact .refl
  · exact Moves.refl.acquire hc hb

theorem metaScan_cons_absent {w : World} {ty : Nat} (hk : w.get ⟨ty, 0⟩ = none) (excl : Bool) (rest : List Nat)
    (idx : Nat) : w.metaScan excl (ty :: rest) idx = w.metaScan excl rest (idx + 1) := by
  rw [metaScan, hk]

theorem metaScan_cons_present {w : World} {ty : Nat} {c : Cell} (hk : w.get ⟨ty, 0⟩ = some c) (excl : Bool)
    (rest : List Nat) (idx : Nat) :
    w.metaScan excl (ty :: rest) idx =
      ((w.fetchCore ⟨ty, 0⟩ excl .byId false).1, (w.fetchCore ⟨ty, 0⟩ excl .byId false).2, idx + 1) := by
  rw [metaScan, hk]

theorem metaScan_cases (w : World) (excl : Bool) (tys : List Nat) (idx : Nat) :
    ((w.metaScan excl tys idx).1 = w ∧ (w.metaScan excl tys idx).2.1 = .none ∧
        ∀ ty ∈ tys, w.get ⟨ty, 0⟩ = none) ∨
    (∃ pre ty post, tys = pre ++ ty :: post ∧ (∀ t ∈ pre, w.get ⟨t, 0⟩ = none) ∧ (w.get ⟨ty, 0⟩).isSome ∧
      (w.metaScan excl tys idx).1 = (w.fetchCore ⟨ty, 0⟩ excl .byId false).1 ∧
      (w.metaScan excl tys idx).2.1 = (w.fetchCore ⟨ty, 0⟩ excl .byId false).2 ∧
      (w.metaScan excl tys idx).2.2 = idx + pre.length + 1) := by
  induction tys generalizing idx with
  | nil => exact Or.inl ⟨rfl, rfl, nofun⟩
  | cons ty rest ih =>
    cases hk : w.get ⟨ty, 0⟩ with
    | none =>
      rw [metaScan_cons_absent hk]
      have hcons : ∀ l : List Nat, (∀ t ∈ l, w.get ⟨t, 0⟩ = none) → ∀ t ∈ ty :: l, w.get ⟨t, 0⟩ = none :=
        fun l hl t ht => (List.mem_cons.mp ht).elim (fun e => e ▸ hk) (hl t)
      rcases ih (idx + 1) with ⟨h1, h2, h3⟩ | ⟨pre, ty', post, he, hpre, hty, h1, h2, h3⟩
      · exact Or.inl ⟨h1, h2, hcons rest h3⟩
      · exact Or.inr ⟨ty :: pre, ty', post, congrArg (ty :: ·) he, hcons pre hpre, hty, h1, h2,
          by rw [h3, List.length_cons]; omega⟩
    | some c =>
      rw [metaScan_cons_present hk]
      exact Or.inr ⟨[], ty, rest, rfl, nofun, by rw [hk]; rfl, rfl, rfl, rfl⟩

theorem metaNext_moves (w : World) (tys : List Nat) (idx : Nat) (excl : Bool) :
    Moves w (handlesOf (w.metaNext tys idx excl).2.1) (w.metaNext tys idx excl).1 := by
  unfold metaNext
  rcases metaScan_cases w excl (tys.drop idx) idx with ⟨h1, h2, _⟩ | ⟨_, ty, _, _, _, _, h1, h2, _⟩
  · rw [h1, h2]; exact .refl
  · rw [h1, h2]; exact fetchCore_moves ..

/-- `sysData` read as a relation, one constructor for each way through it: `SysDataRel w items w' o`
holds of `(w', o) = w.sysData items` (`SysDataRel.of_sysData`). The fields are fetched left to right;
the answer is the data or the refusal of the first field that is refused — then the guards taken for
the earlier fields have been dropped again, last first. -/
inductive SysDataRel : World → List SdItem → World → Out → Prop
  | nil (w) : SysDataRel w [] w (.data [])
  | missing {w it} (rest) : w.get ⟨it.ty, 0⟩ = none → it.opt = false → SysDataRel w (it :: rest) w (.panic .absent)
  | conflict {w it c} (rest) : w.get ⟨it.ty, 0⟩ = some c → tryBorrow c.borrow it.write = none →
      SysDataRel w (it :: rest) w (.panic (borrowPanic .typed c.borrow it.write))
  | absent {w w2 it rest fs} : w.get ⟨it.ty, 0⟩ = none → it.opt = true →
      SysDataRel w rest w2 (.data fs) → SysDataRel w (it :: rest) w2 (.data (none :: fs))
  | absentRefused {w w2 it rest p} : w.get ⟨it.ty, 0⟩ = none → it.opt = true →
      SysDataRel w rest w2 (.panic p) → SysDataRel w (it :: rest) w2 (.panic p)
  | taken {w w2 it rest c b' fs} : w.get ⟨it.ty, 0⟩ = some c → tryBorrow c.borrow it.write = some b' →
      SysDataRel (w.acquire ⟨it.ty, 0⟩ c it.write b') rest w2 (.data fs) →
      SysDataRel w (it :: rest) w2 (.data (some (w.nextHandle, c.token) :: fs))
  | unwound {w w2 it rest c b' p} : w.get ⟨it.ty, 0⟩ = some c → tryBorrow c.borrow it.write = some b' →
      SysDataRel (w.acquire ⟨it.ty, 0⟩ c it.write b') rest w2 (.panic p) →
      SysDataRel w (it :: rest) (w2.release w.nextHandle) (.panic p)

theorem SysDataRel.out {w w' : World} {items : List SdItem} {o : Out} (h : SysDataRel w items w' o) :
    (∃ fs, o = .data fs) ∨ (∃ p, o = .panic p ∧ p ≠ .wrongType) := by
  induction h with
  | nil | absent | taken => exact .inl ⟨_, rfl⟩
  | missing => exact .inr ⟨_, rfl, nofun⟩
  | conflict => exact .inr ⟨_, rfl, borrowPanic_ne_wrongType _ _ _⟩
  | absentRefused _ _ _ ih | unwound _ _ _ ih => exact ih

theorem SysDataRel.of_sysData (w : World) (items : List SdItem) :
    SysDataRel w items (w.sysData items).1 (w.sysData items).2 := by
  induction items generalizing w with
  | nil => exact .nil w
  | cons it rest ih =>
    rw [sysData]
    cases hk : w.get ⟨it.ty, 0⟩ with
    | none =>
      cases ho : it.opt
      · rw [show w.fetchCore ⟨it.ty, 0⟩ it.write .typed (!false) = (w, .panic .absent) from
          fetchCore_absent w _ _ _ _ hk]
        exact .missing rest hk ho
      · rw [show w.fetchCore ⟨it.ty, 0⟩ it.write .typed (!true) = (w, .none) from
          fetchCore_absent w _ _ _ _ hk]
        have h := ih w
        dsimp only
        rcases hr : w.sysData rest with ⟨w2, o⟩
        rw [hr] at h
        rcases h.out with ⟨fs, rfl⟩ | ⟨p, rfl, _⟩
        · exact .absent hk ho h
        · exact .absentRefused hk ho h
    | some c =>
      cases hb : tryBorrow c.borrow it.write with
      | none =>
        rw [fetchCore_conflict w _ _ _ _ hk hb]
        exact .conflict rest hk hb
      | some b' =>
        rw [fetchCore_ok w _ _ _ _ hk hb]
        have h := ih (w.acquire ⟨it.ty, 0⟩ c it.write b')
        dsimp only
        rcases hr : (w.acquire ⟨it.ty, 0⟩ c it.write b').sysData rest with ⟨w2, o⟩
        rw [hr] at h
        rcases h.out with ⟨fs, rfl⟩ | ⟨p, rfl, _⟩
        · exact .taken hk hb h
        · exact .unwound hk hb h

theorem sysData_out (w : World) (items : List SdItem) :
    (∃ w2 fs, w.sysData items = (w2, .data fs)) ∨ (∃ w2 p, w.sysData items = (w2, .panic p) ∧ p ≠ .wrongType) :=
  (SysDataRel.of_sysData w items).out.imp (fun ⟨fs, e⟩ => ⟨_, fs, Prod.ext rfl e⟩)
    fun ⟨p, e, hp⟩ => ⟨_, p, Prod.ext rfl e, hp⟩

/-- a composite fetch that is granted holds exactly the guards in its answer; one that panicked
has dropped the guards of its earlier fields, last first, and holds none -/
theorem SysDataRel.moves {w w' : World} {items : List SdItem} {o : Out} (h : SysDataRel w items w' o) :
    Moves w (handlesOf o) w' := by
  induction h with
  | nil | missing | conflict => exact .refl
  | absent _ _ _ ih | absentRefused _ _ _ ih => exact ih
  | taken hc hb _ ih => exact (Moves.refl.acquire hc hb).trans ih
  | unwound hc hb _ ih => exact Moves.undo ((Moves.refl.acquire hc hb).trans ih)

theorem sysData_moves (w : World) (items : List SdItem) :
    Moves w (handlesOf (w.sysData items).2) (w.sysData items).1 :=
  (SysDataRel.of_sysData w items).moves

/-- `exec(f)` is `setup`, then the composite fetch. If it is granted `f` runs and the data is dropped,
at the end of `f` or — `execFault`, `f` panics — by the unwinding; if it is refused, that panic is
the answer either way. -/
theorem exec_cases (w : World) (items : List SdItem) (toks : List Nat) :
    (∃ w2 fs, (w.setup items toks).1.sysData items = (w2, .data fs) ∧
      w.exec items toks = (w2.releaseData fs, .data fs) ∧
      w.execFault items toks = (w2.releaseData fs, .unwound .closure)) ∨
    (∃ w2 p, (w.setup items toks).1.sysData items = (w2, .panic p) ∧ p ≠ .wrongType ∧
      w.exec items toks = (w2, .panic p) ∧ w.execFault items toks = (w2, .panic p)) := by
  unfold exec execFault
  rcases sysData_out (w.setup items toks).1 items with ⟨w2, fs, hr⟩ | ⟨w2, p, hr, hp⟩ <;> rw [hr]
  · exact .inl ⟨w2, fs, rfl, rfl, rfl⟩
  · exact .inr ⟨w2, p, rfl, hp, rfl, rfl⟩

theorem execFault_spec (w : World) (items : List SdItem) (toks : List Nat) :
    (w.execFault items toks).1 = (w.exec items toks).1 ∧
    (((w.execFault items toks).2 = .unwound .closure ∧ ∃ fs, (w.exec items toks).2 = .data fs) ∨
     (∃ p, (w.execFault items toks).2 = .panic p ∧ (w.exec items toks).2 = .panic p)) := by
  rcases exec_cases w items toks with ⟨_, fs, _, h1, h2⟩ | ⟨_, p, _, _, h1, h2⟩ <;> rw [h1, h2]
  · exact ⟨rfl, Or.inl ⟨rfl, fs, rfl⟩⟩
  · exact ⟨rfl, Or.inr ⟨p, rfl, rfl⟩⟩

theorem cloneGuard_moves (w : World) (h : Nat) : Moves w (handlesOf (w.cloneGuard h).2) (w.cloneGuard h).1 := by
  unfold cloneGuard
  split
  · split
    · exact .refl
    · exact fetchCore_moves ..
  · exact .refl

theorem take_moves (w : World) (tys : List Nat) (ri wi : Nat) (prior : List Nat) (t : Take) :
    Moves w (handlesOf (t.run w tys ri wi prior).2) (t.run w tys ri wi prior).1 := by
  cases t with
  | fetch ty excl orPanic => exact fetchCore_moves ..
  | byId a k excl => cases excl <;> exact (fetchCore_moves ..).asserted _
  | data items => exact sysData_moves w items
  | iter excl => exact metaNext_moves w ..
  | cloneLocal i =>
    simp only [Take.run]
    split
    · exact cloneGuard_moves w _
    · exact .refl
  | cloneOuter h => exact cloneGuard_moves w h

theorem scopeBody_moves (tys : List Nat) (takes : List Take) (w : World) (ri wi : Nat) (prior : List Nat) :
    Moves w (scopeBody tys takes w ri wi prior).2.1 (scopeBody tys takes w ri wi prior).1 := by
  induction takes generalizing w ri wi prior with
  | nil => exact .refl
  | cons t rest ih =>
    have ht := take_moves w tys ri wi prior t
    unfold scopeBody
    split
    · next w1 p he => rw [he] at ht; exact ht
    · next w1 o _ he => rw [he] at ht; exact ht.trans (ih ..)

/-- a closure has dropped its guards itself -/
theorem scope_moves (w : World) (tys : List Nat) (takes : List Take) (e : Bool) :
    Moves w (handlesOf (w.scope tys takes e).2) (w.scope tys takes e).1 :=
  Moves.releaseAll (hs := []) _ (by rw [List.reverse_reverse]; exact scopeBody_moves tys takes w 0 0 [])

theorem step_moves (w : World) (op : Op) (hm : op.isMut = false) :
    (∃ h, op = .drop h) ∨ Moves w (handlesOf (w.step op).2) (w.step op).1 := by
  cases op with
  | hasValue _ | hasValueRaw _ => exact .inr .refl
  | fetch _ | fetchMut _ | tryFetch _ | tryFetchMut _ => exact .inr (fetchCore_moves ..)
  | tryFetchById a k | tryFetchMutById a k => exact .inr ((fetchCore_moves ..).asserted _)
  | systemData items => exact .inr (sysData_moves w items)
  | metaNext tys idx x => exact .inr (metaNext_moves w tys idx x)
  | clone h => exact .inr (cloneGuard_moves w h)
  | drop h => exact .inl ⟨h, rfl⟩
  | scope tys takes e => exact .inr (scope_moves w tys takes e)
  | _ => cases hm

section closed
variable {P : World → Prop} (hP : BorrowClosed P)
include hP

theorem step_closed_of_not_mut {w : World} (hw : P w) (op : Op) (h : op.isMut = false) : P (w.step op).1 := by
  rcases step_moves w op h with ⟨x, rfl⟩ | hb
  · exact hP.release x hw
  · exact hb.closed hP hw

theorem releaseData_closed {w : World} (hw : P w) (fs : List (Option (Nat × Nat))) : P (w.releaseData fs) := by
  induction fs generalizing w with
  | nil => exact hw
  | cons f rest ih =>
    cases f with
    | none => exact ih hw
    | some p => exact ih (hP.release p.1 hw)

theorem exec_closed {w : World} (items : List SdItem) (toks : List Nat) (hw : P (w.setup items toks).1) :
    P (w.exec items toks).1 := by
  have h := (sysData_moves _ items).closed hP hw
  rcases exec_cases w items toks with ⟨w2, fs, hr, he, _⟩ | ⟨w2, p, hr, _, he, _⟩
  · rw [hr] at h; rw [he]; exact releaseData_closed hP h fs
  · rw [hr] at h; rw [he]; exact h

end closed

/-- **`scope_frame`**: a closure that takes guards of any kind, in any order, and then returns,
panics, or is refused a fetch half-way, leaves — once it has been left, by return or by unwinding —
every cell and every guard that lives outside it exactly as they were -/
theorem scope_frame {w : World} (hw : Inv w) (hh : HandlesOk w) (tys : List Nat) (takes : List Take) (e : Bool) :
    (w.scope tys takes e).1.cells = w.cells ∧ (w.scope tys takes e).1.guards = w.guards :=
  -- the closure's answer carries no guard, so `Moves.frame` has nothing left to drop
  have h := (scope_moves w tys takes e).frame hw hh
  ⟨h.cells, h.guards⟩

theorem scope_inv {w : World} (hw : Inv w) (hh : HandlesOk w) (tys : List Nat) (takes : List Take) (e : Bool) :
    Inv (w.scope tys takes e).1 ∧ HandlesOk (w.scope tys takes e).1 :=
  have h := scope_moves w tys takes e
  ⟨h.closed inv_closed hw, h.closed handles_closed hh⟩

/-- a `&self` call other than a guard's drop: dropping the guards in its answer restores both
tables. A call that panicked has answered none — this is `panic_frame` for these operations; a
closure has dropped its guards itself — this is `scope_frame`. -/
theorem step_release_frame {w : World} (hw : Inv w) (hh : HandlesOk w) (op : Op) (hm : op.isMut = false)
    (hd : ∀ h, op ≠ .drop h) :
    SameTables (releaseAll (w.step op).1 (handlesOf (w.step op).2).reverse) w := by
  rcases step_moves w op hm with ⟨x, rfl⟩ | hb
  · exact absurd rfl (hd x)
  · exact hb.frame hw hh

/-- what `entry()…` (entry.rs l.45) does to the table before it borrows the cell: on an occupied
slot an unused `or_insert` argument is dropped, on a vacant one the new value is stored -/
def World.entryData (w : World) (ty t : Nat) (bv : Bool) : World :=
  match w.get ⟨ty, 0⟩ with
  | some _ => if bv then { w with created := w.created ++ [t], dropped := w.dropped ++ [t] } else w
  | none => { w with cells := setCell ⟨ty, 0⟩ ⟨ty, t, .free⟩ w.cells, created := w.created ++ [t] }

theorem entryData_occupied {w : World} {ty : Nat} {c : Cell} (h : w.get ⟨ty, 0⟩ = some c) (t : Nat) (bv : Bool) :
    w.entryData ty t bv =
      if bv then { w with created := w.created ++ [t], dropped := w.dropped ++ [t] } else w := by
  rw [entryData, h]

theorem entryData_vacant {w : World} {ty : Nat} (h : w.get ⟨ty, 0⟩ = none) (t : Nat) (bv : Bool) :
    w.entryData ty t bv =
      { w with cells := setCell ⟨ty, 0⟩ ⟨ty, t, .free⟩ w.cells, created := w.created ++ [t] } := by
  rw [entryData, h]

theorem entryOrInsert_eq (w : World) (ty t : Nat) (bv : Bool) :
    w.entryOrInsert ty t bv = (w.entryData ty t bv).fetchCore ⟨ty, 0⟩ true .byId false := by
  unfold entryOrInsert entryData
  simp only []
  cases w.get ⟨ty, 0⟩ <;> rfl

theorem entryData_guards (w : World) (ty t : Nat) (bv : Bool) :
    (w.entryData ty t bv).guards = w.guards ∧ (w.entryData ty t bv).nextHandle = w.nextHandle := by
  cases hk : w.get ⟨ty, 0⟩ with
  | some c => rw [entryData_occupied hk]; cases bv <;> exact ⟨rfl, rfl⟩
  | none => rw [entryData_vacant hk]; exact ⟨rfl, rfl⟩

theorem entryData_get (w : World) (ty t : Nat) (bv : Bool) :
    ∃ c, (w.entryData ty t bv).get ⟨ty, 0⟩ = some c ∧
      c.token = ((w.get ⟨ty, 0⟩).map (·.token)).getD t ∧
      c.borrow = ((w.get ⟨ty, 0⟩).map (·.borrow)).getD .free := by
  cases hk : w.get ⟨ty, 0⟩ with
  | some c => rw [entryData_occupied hk]; exact ⟨c, by cases bv <;> exact hk, rfl, rfl⟩
  | none => rw [entryData_vacant hk]; exact ⟨_, lookup_setCell_same, rfl, rfl⟩

theorem entryData_inv {w : World} (hw : Inv w) (hg : w.guards = []) (ty t : Nat) (bv : Bool) :
    Inv (w.entryData ty t bv) := by
  refine inv_write hw hg ((entryData_guards w ty t bv).1.trans hg) ?_
  intro r c
  cases hk : w.get ⟨ty, 0⟩ with
  | some c0 => rw [entryData_occupied hk]; cases bv <;> exact Or.inl
  | none => rw [entryData_vacant hk]; exact fun hc => (lookup_setCell_cases hc).imp id fun e => by rw [e]

/-- with no live guard `entry()…` cannot be refused: it answers an exclusive guard on the slot,
which shows the value that was there or else the new one -/
theorem entryOrInsert_ok {w : World} (hw : Inv w) (hg : w.guards = []) (ty t : Nat) (bv : Bool) :
    ∃ c, (w.entryData ty t bv).get ⟨ty, 0⟩ = some c ∧ tryBorrow c.borrow true = some .excl ∧
      c.token = ((w.get ⟨ty, 0⟩).map (·.token)).getD t ∧
      w.entryOrInsert ty t bv = ((w.entryData ty t bv).acquire ⟨ty, 0⟩ c true .excl, .guard w.nextHandle c.token) := by
  obtain ⟨c, hc, ht, _⟩ := entryData_get w ty t bv
  have hg' := (entryData_guards w ty t bv).1.trans hg
  have hb : tryBorrow c.borrow true = some .excl := by
    rw [(inv_of_no_guards hg').mp (entryData_inv hw hg ty t bv) _ c hc]; rfl
  refine ⟨c, hc, hb, ht, ?_⟩
  rw [entryOrInsert_eq, fetchCore_ok _ _ _ _ _ hc hb]
  exact Prod.ext rfl (congrArg (Out.guard · c.token) (entryData_guards w ty t bv).2)

theorem entryScoped_inv {w : World} (hw : Inv w) (hg : w.guards = []) (ty t : Nat) (bv : Bool) :
    Inv (w.entryScoped ty t bv).1 ∧ (w.entryScoped ty t bv).1.guards = [] := by
  obtain ⟨c, hc, hb, _, he⟩ := entryOrInsert_ok hw hg ty t bv
  have hg0 := entryData_guards w ty t bv
  have hi := entryData_inv hw hg ty t bv
  have hfr := acquire_release hi (handles_of_nil (hg0.1.trans hg)) hc hb
  unfold entryScoped
  rw [he]
  refine ⟨release_inv (inv_acquire hi hc hb) _, ?_⟩
  rw [← hg0.2]
  exact hfr.guards.trans (hg0.1.trans hg)

theorem insertById_of_ne {a : Nat} {k : ResId} (h : a ≠ k.ty) (w : World) (t : Nat) :
    w.insertById a k t =
      ({ w with created := w.created ++ [t], dropped := w.dropped ++ [t] }, .panic .wrongType) :=
  if_pos h

theorem insertById_of_eq {a : Nat} {k : ResId} (h : a = k.ty) (w : World) (t : Nat) :
    w.insertById a k t =
      ({ w with cells := setCell k ⟨a, t, .free⟩ w.cells, created := w.created ++ [t],
                dropped := w.dropped ++ ((w.get k).map (·.token)).toList }, .unit) :=
  if_neg fun e => e h

theorem removeById_of_ne {a : Nat} {k : ResId} (h : a ≠ k.ty) (w : World) :
    w.removeById a k = (w, .panic .wrongType) :=
  if_pos h

theorem removeById_absent {w : World} {a : Nat} {k : ResId} (h : a = k.ty) (hk : w.get k = none) :
    w.removeById a k = (w, .none) := by
  rw [removeById, if_neg fun e => e h, hk]

theorem removeById_present {w : World} {a : Nat} {k : ResId} {c : Cell} (h : a = k.ty) (hk : w.get k = some c) :
    w.removeById a k =
      ({ w with cells := eraseCell k w.cells, returned := w.returned ++ [c.token] }, .value c.token) := by
  rw [removeById, if_neg fun e => e h, hk]

theorem insertById_inv {w : World} (hw : Inv w) (hg : w.guards = []) (a : Nat) (k : ResId) (t : Nat) :
    Inv (w.insertById a k t).1 ∧ (w.insertById a k t).1.guards = [] := by
  by_cases h : a = k.ty
  · rw [insertById_of_eq h]
    exact ⟨inv_write hw hg hg fun r c hc => (lookup_setCell_cases hc).imp id fun e => by rw [e], hg⟩
  · rw [insertById_of_ne h]
    exact ⟨hw, hg⟩

theorem removeById_inv {w : World} (hw : Inv w) (hg : w.guards = []) (a : Nat) (k : ResId) :
    Inv (w.removeById a k).1 ∧ (w.removeById a k).1.guards = [] := by
  by_cases h : a = k.ty
  · cases hk : w.get k with
    | none => rw [removeById_absent h hk]; exact ⟨hw, hg⟩
    | some c0 =>
      rw [removeById_present h hk]
      exact ⟨inv_write hw hg hg fun r c hc => Or.inl (lookup_eraseCell_some hc), hg⟩
  · rw [removeById_of_ne h]
    exact ⟨hw, hg⟩

/-- `setup` is a sequence of `entry().or_insert_with(default)` calls -/
theorem setup_induction {P : World → Prop} (h : ∀ (w : World) ty t, P w → P (w.entryScoped ty t false).1)
    {w : World} (hw : P w) (items : List SdItem) (toks : List Nat) : P (w.setup items toks).1 := by
  fun_induction World.setup w items toks with
  | case1 => exact hw
  | case2 w it rest toks _ c _ ih => exact ih (h _ _ _ hw)  -- occupied: the closure does not run
  | case3 w it rest _ t toks _ ih => exact ih (h _ _ _ hw)  -- vacant: the default takes the token `t`
  | case4 w it rest _ _ ih => exact ih hw                   -- vacant, no token left
  | case5 w it rest toks _ ih => exact ih hw                -- no default handler

theorem setup_inv {w : World} (hw : Inv w) (hg : w.guards = []) (items : List SdItem) (toks : List Nat) :
    Inv (w.setup items toks).1 ∧ (w.setup items toks).1.guards = [] :=
  setup_induction (P := fun w => Inv w ∧ w.guards = []) (fun _ ty t h => entryScoped_inv h.1 h.2 ty t false)
    ⟨hw, hg⟩ items toks

theorem insertFused_eq (w : World) (a : Nat) (k : ResId) (t : Nat) :
    w.insertFused a k t = ((w.insertById a k t).1,
      if a ≠ k.ty then .panic .wrongType else if (w.get k).isSome then .unwound .drop else .unit) := by
  unfold insertFused
  by_cases h : a = k.ty
  · rw [insertById_of_eq h, if_neg fun e => e h]; cases w.get k <;> rfl
  · rw [insertById_of_ne h, if_pos h]

theorem insertFused_fst (w : World) (a : Nat) (k : ResId) (t : Nat) :
    (w.insertFused a k t).1 = (w.insertById a k t).1 := by rw [insertFused_eq]

theorem insertFused_eq_of_panic {w : World} {a : Nat} {k : ResId} {t : Nat} {p : WPanic}
    (hp : (w.insertFused a k t).2 = .panic p) : w.insertFused a k t = w.insertById a k t := by
  unfold insertFused at hp ⊢
  split at hp
  · cases hp
  · rfl

theorem entryFault_guardHeld_fst (w : World) (ty t : Nat) (bv : Bool) :
    (w.entryFault ty t (.guardHeld bv)).1 = (w.entryScoped ty t bv).1 := by
  simp only [entryFault, entryScoped]
  split <;> rfl

/-- a caller that panics while holding the guard turns a returned guard into `.unwound`; a `.panic`
answer is the plain call's -/
theorem entryFault_guardHeld_panic (w : World) (ty t : Nat) (bv : Bool) (p : WPanic)
    (hp : (w.entryFault ty t (.guardHeld bv)).2 = .panic p) : (w.entryScoped ty t bv).2 = .panic p := by
  simp only [entryFault, entryScoped] at hp ⊢
  split at hp
  · cases hp
  · exact hp

/-- with no live guard the `entry` call itself cannot fail, so a caller that panics while holding
its guard is what unwinds it -/
theorem entryFault_guardHeld_out {w : World} (hw : Inv w) (hg : w.guards = []) (ty t : Nat) (bv : Bool) :
    (w.entryFault ty t (.guardHeld bv)).2 = .unwound .closure := by
  obtain ⟨c, _, _, _, he⟩ := entryOrInsert_ok hw hg ty t bv
  simp only [entryFault, he]

theorem entryFault_valueDrop (w : World) (ty t : Nat) :
    w.entryFault ty t .valueDrop =
      if (w.get ⟨ty, 0⟩).isSome then
        ({ w with created := w.created ++ [t], dropped := w.dropped ++ [t] }, .unwound .drop)
      else w.entryScoped ty t true := by
  unfold entryFault
  cases w.get ⟨ty, 0⟩ <;> rfl

theorem entryFault_closure (w : World) (ty t : Nat) :
    w.entryFault ty t .closure =
      if (w.get ⟨ty, 0⟩).isSome then w.entryScoped ty t false else (w, .unwound .closure) := by
  unfold entryFault
  cases w.get ⟨ty, 0⟩ <;> rfl

/-- the state a `&mut` call leaves is the state after one of five functions, or `w` itself, or `w` with a
value handed in and dropped unused. The typed forms are the by-id forms at the type's own id; a fault
changes what a call answers, or whether `entry` writes at all, not what a write does. -/
theorem step_mut_state {P : World → Prop} {w : World} {op : Op} (hm : op.isMut = true)
    (insertById : ∀ a k t, P (w.insertById a k t).1)
    (removeById : ∀ a k, P (w.removeById a k).1)
    (entry : ∀ ty t bv, P (w.entryScoped ty t bv).1)
    (setup : ∀ items toks, P (w.setup items toks).1)
    (exec : ∀ items toks, P (w.exec items toks).1)
    (discard : ∀ t, P { w with created := w.created ++ [t], dropped := w.dropped ++ [t] })
    (same : P w) : P (w.step op).1 := by
  cases op with
  | insert ty t => exact insertById ty ⟨ty, 0⟩ t
  | insertById a k t => exact insertById a k t
  | remove ty => exact removeById ty ⟨ty, 0⟩
  | removeById a k => exact removeById a k
  | entry ty t bv => exact entry ty t bv
  | getMut _ | getMutRaw _ => exact same
  | setup items toks => exact setup items toks
  | exec items toks => exact exec items toks
  | insertFused a k t => exact insertFused_fst w a k t ▸ insertById a k t
  | entryFault ty t f =>
    cases f with
    | guardHeld bv => exact entryFault_guardHeld_fst w ty t bv ▸ entry ty t bv
    | valueDrop =>
      rw [step, entryFault_valueDrop]
      split
      · exact discard t
      · exact entry ty t true
    | closure =>
      rw [step, entryFault_closure]
      split
      · exact entry ty t false
      · exact same
  | execFault items toks => exact (execFault_spec w items toks).1 ▸ exec items toks
  | _ => cases hm

theorem step_inv_mut {w : World} (hw : Inv w) (hg : w.guards = []) (op : Op) (hm : op.isMut = true) :
    Inv (w.step op).1 ∧ HandlesOk (w.step op).1 := by
  have nil : ∀ {w' : World}, Inv w' ∧ w'.guards = [] → Inv w' ∧ HandlesOk w' :=
    fun h => ⟨h.1, handles_of_nil h.2⟩
  apply step_mut_state (P := fun w' => Inv w' ∧ HandlesOk w') hm
  case insertById => exact fun a k t => nil (insertById_inv hw hg a k t)
  case removeById => exact fun a k => nil (removeById_inv hw hg a k)
  case entry => exact fun ty t bv => nil (entryScoped_inv hw hg ty t bv)
  case setup => exact fun items toks => nil (setup_inv hw hg items toks)
  case exec =>
    -- `exec` is why this concludes `HandlesOk` where every case lemma has `guards = []`: a granted
    -- `exec` drops its data in field order (`releaseData`) and `Moves.frame` covers last-first only,
    -- so that `exec` leaves no guard is not a lemma
    intro items toks
    have h := nil (setup_inv hw hg items toks)
    exact ⟨exec_closed inv_closed items toks h.1, exec_closed handles_closed items toks h.2⟩
  case discard => exact fun _ => nil ⟨hw, hg⟩
  case same => exact nil ⟨hw, hg⟩

theorem step_inv {w : World} (hw : Inv w) (hh : HandlesOk w) (op : Op) (hl : op.isMut = true → w.guards = []) :
    Inv (w.step op).1 ∧ HandlesOk (w.step op).1 := by
  cases hm : op.isMut with
  | true => exact step_inv_mut hw (hl hm) op hm
  | false =>
    exact ⟨step_closed_of_not_mut inv_closed hw op hm, step_closed_of_not_mut handles_closed hh op hm⟩

theorem inv_empty : Inv {} := fun _ => ⟨rfl, rfl⟩

theorem fetchCore_panic_frame {w : World} {k : ResId} {excl : Bool} {f : Form} {orPanic : Bool} {p : WPanic}
    (h : (w.fetchCore k excl f orPanic).2 = .panic p) : (w.fetchCore k excl f orPanic).1 = w := by
  rcases fetchCore_cases w k excl f orPanic with ⟨_, he⟩ | ⟨_, _, _, he⟩ | ⟨c, b', _, _, he⟩
  · rw [he]
  · rw [he]
  · rw [he] at h; cases h

theorem insertById_panic_frame (w : World) (a : Nat) (k : ResId) (t : Nat) (p : WPanic)
    (hp : (w.insertById a k t).2 = .panic p) :
    (w.insertById a k t).1.cells = w.cells ∧ (w.insertById a k t).1.guards = w.guards := by
  by_cases h : a = k.ty
  · rw [insertById_of_eq h] at hp; cases hp
  · rw [insertById_of_ne h]; exact ⟨rfl, rfl⟩

theorem removeById_panic_frame (w : World) (a : Nat) (k : ResId) (p : WPanic)
    (hp : (w.removeById a k).2 = .panic p) : (w.removeById a k).1 = w := by
  by_cases h : a = k.ty
  · cases hk : w.get k with
    | none => rw [removeById_absent h hk]
    | some c => rw [removeById_present h hk] at hp; cases hp
  · rw [removeById_of_ne h]

theorem entryScoped_eq_of_panic {w : World} {ty t : Nat} {bv : Bool} {p : WPanic}
    (hp : (w.entryScoped ty t bv).2 = .panic p) :
    w.entryScoped ty t bv = (w.entryData ty t bv).fetchCore ⟨ty, 0⟩ true .byId false := by
  rw [← entryOrInsert_eq]
  unfold entryScoped at hp ⊢
  split at hp
  · cases hp
  · rfl

/-- `entry()…` panics only when its `borrow_mut()` is refused, which needs a live guard on a slot
that was occupied: nothing has been written -/
theorem entryScoped_panic_frame (w : World) (ty t : Nat) (bv : Bool) (p : WPanic)
    (hp : (w.entryScoped ty t bv).2 = .panic p) :
    (w.entryScoped ty t bv).1.cells = w.cells ∧ (w.entryScoped ty t bv).1.guards = w.guards := by
  have he := entryScoped_eq_of_panic hp
  rw [he] at hp ⊢
  rw [fetchCore_panic_frame hp]
  obtain ⟨c, hc, _, hb⟩ := entryData_get w ty t bv
  cases hk : w.get ⟨ty, 0⟩ with
  | none =>
    rw [hk] at hb
    rw [fetchCore_ok _ _ _ _ _ hc (b' := .excl) (by rw [hb]; rfl)] at hp
    cases hp
  | some c0 => rw [entryData_occupied hk]; cases bv <;> exact ⟨rfl, rfl⟩

theorem entryFault_panic_frame (w : World) (ty t : Nat) (f : EntryFault) (p : WPanic)
    (hp : (w.entryFault ty t f).2 = .panic p) :
    (w.entryFault ty t f).1.cells = w.cells ∧ (w.entryFault ty t f).1.guards = w.guards := by
  cases f with
  | guardHeld bv =>
    rw [entryFault_guardHeld_fst]
    exact entryScoped_panic_frame w ty t bv p (entryFault_guardHeld_panic w ty t bv p hp)
  | valueDrop =>
    revert hp
    rw [entryFault_valueDrop]
    split
    · nofun
    · exact entryScoped_panic_frame w ty t true p
  | closure =>
    revert hp
    rw [entryFault_closure]
    split
    · exact entryScoped_panic_frame w ty t false p
    · nofun

end Shred
