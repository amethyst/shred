import ShredModel.Lemmas.WorldMap
/-!
# C09 lemmas: every operation against the abstract map

What each operation does to the map (`absStep`) and what it answers (`OutOk`), which tokens it turns
into values, what conservation (`Linear`) gives once tokens are distinct, where the type-id
assertion fires, and the drops that happen outside a call.
-/
namespace Shred
open World

theorem fetchCore_out_abs (w : World) (k : ResId) (excl : Bool) (f : Form) (orPanic : Bool) :
    (∃ p, (w.fetchCore k excl f orPanic).2 = .panic p ∧ p ≠ .absent ∧ p ≠ .wrongType ∧ (w.abs k).isSome) ∨
    (match w.abs k with
      | some t => (w.fetchCore k excl f orPanic).2 = .guard w.nextHandle t
      | none => (w.fetchCore k excl f orPanic).2 = if orPanic then .panic .absent else .none) := by
  unfold World.abs
  rcases fetchCore_cases w k excl f orPanic with ⟨hk, h⟩ | ⟨c, hk, _, h⟩ | ⟨c, b', hk, _, h⟩ <;> rw [h, hk]
  · exact Or.inr rfl
  · exact Or.inl ⟨_, rfl, borrowPanic_ne_absent _ _ _, borrowPanic_ne_wrongType _ _ _, rfl⟩
  · exact Or.inr rfl

def absSetup (m : ResId → Option Nat) : List SdItem → List Nat → (ResId → Option Nat)
  | [], _ => m
  | it :: rest, toks =>
    if it.dflt && !it.opt then
      match m ⟨it.ty, 0⟩, toks with
      | some _, _ => absSetup m rest toks
      | none, t :: toks' => absSetup (upd m ⟨it.ty, 0⟩ (some t)) rest toks'
      | none, [] => absSetup m rest []
    else absSetup m rest toks

theorem setup_abs (w : World) (items : List SdItem) (toks : List Nat) :
    (w.setup items toks).1.abs = absSetup w.abs items toks := by
  fun_induction World.setup w items toks with
  | case1 => rfl
  | case2 w it rest toks hd c hk ih =>  -- occupied
    have ha : w.abs ⟨it.ty, 0⟩ = some c.token := abs_some hk
    rw [ih, entryScoped_abs]
    simp only [absSetup, hd, ha, Option.isSome_some, if_true]
  | case3 w it rest hd t toks hk ih =>  -- vacant: the default takes the token `t`
    have ha : w.abs ⟨it.ty, 0⟩ = none := abs_none_iff.mpr hk
    rw [ih, entryScoped_abs]
    simp only [absSetup, hd, ha, Option.isSome_none, Bool.false_eq_true, if_true, if_false]
  | case4 w it rest hd hk ih =>  -- vacant, no token left
    have ha : w.abs ⟨it.ty, 0⟩ = none := abs_none_iff.mpr hk
    rw [ih]
    simp only [absSetup, hd, ha, if_true]
  | case5 w it rest toks hd ih =>  -- no default handler
    rw [ih]
    simp only [absSetup, hd, Bool.false_eq_true, if_false]

def absStep (m : ResId → Option Nat) : Op → (ResId → Option Nat)
  | .insert ty tok => upd m ⟨ty, 0⟩ (some tok)
  | .insertById a k tok => if a ≠ k.ty then m else upd m k (some tok)
  | .remove ty => upd m ⟨ty, 0⟩ none
  | .removeById a k => if a ≠ k.ty then m else upd m k none
  | .entry ty tok _ => if (m ⟨ty, 0⟩).isSome then m else upd m ⟨ty, 0⟩ (some tok)
  | .setup items toks => absSetup m items toks
  | .exec items toks => absSetup m items toks
  | .insertFused a k tok => if a ≠ k.ty then m else upd m k (some tok)
  | .entryFault ty tok (.guardHeld _) => if (m ⟨ty, 0⟩).isSome then m else upd m ⟨ty, 0⟩ (some tok)
  | .entryFault ty tok .valueDrop => if (m ⟨ty, 0⟩).isSome then m else upd m ⟨ty, 0⟩ (some tok)
  | .execFault items toks => absSetup m items toks
  | _ => m

/-- field by field: a `Some` field shows the value the map stores under the item's id, a `None`
field belongs to an `Option` item whose resource is absent -/
def FieldsAgree (m : ResId → Option Nat) : List SdItem → List (Option (Nat × Nat)) → Prop
  | [], [] => True
  | it :: items, f :: fs =>
    (match f with
      | some (_, t) => m ⟨it.ty, 0⟩ = some t
      | none => m ⟨it.ty, 0⟩ = none ∧ it.opt = true) ∧ FieldsAgree m items fs
  | _, _ => False

theorem SysDataRel.fields {w w' : World} {items : List SdItem} {o : Out} (h : SysDataRel w items w' o) :
    ∀ fs, o = .data fs → FieldsAgree w.abs items fs := by
  induction h with
  | nil => exact fun _ e => Out.data.inj e ▸ True.intro
  | missing | conflict | absentRefused | unwound => nofun
  | absent hk ho _ ih =>
    exact fun _ e => Out.data.inj e ▸ ⟨⟨abs_none_iff.mpr hk, ho⟩, ih _ rfl⟩
  | @taken w _ _ _ c _ _ hc hb _ ih =>
    refine fun _ e => Out.data.inj e ▸ ⟨abs_some hc, ?_⟩
    rw [← ((same_closed w).acquire (SameData.refl w) hc hb).abs]
    exact ih _ rfl

theorem sysData_fields (w : World) (items : List SdItem) (fs : List (Option (Nat × Nat)))
    (h : (w.sysData items).2 = .data fs) : FieldsAgree w.abs items fs :=
  (SysDataRel.of_sysData w items).fields fs h

theorem insertById_created (w : World) (a : Nat) (k : ResId) (t : Nat) :
    (w.insertById a k t).1.created = w.created ++ [t] := by
  by_cases h : a = k.ty
  · rw [insertById_of_eq h]
  · rw [insertById_of_ne h]

theorem removeById_created (w : World) (a : Nat) (k : ResId) : (w.removeById a k).1.created = w.created := by
  by_cases h : a = k.ty
  · cases hk : w.get k with
    | none => rw [removeById_absent h hk]
    | some c => rw [removeById_present h hk]
  · rw [removeById_of_ne h]

theorem entryScoped_created (w : World) (ty t : Nat) (bv : Bool) :
    (w.entryScoped ty t bv).1.created =
      if bv = true ∨ w.get ⟨ty, 0⟩ = none then w.created ++ [t] else w.created := by
  rw [(entryScoped_same w ty t bv).created]
  cases hk : w.get ⟨ty, 0⟩ with
  | some c => rw [entryData_occupied hk]; cases bv <;> simp
  | none => rw [entryData_vacant hk, if_pos (Or.inr rfl)]

/-- `setup` turns a prefix of its tokens into values, in order, and hands back the rest -/
theorem setup_created_eq (w : World) (items : List SdItem) (toks : List Nat) :
    ∃ l, (w.setup items toks).1.created = w.created ++ l ∧ l ++ (w.setup items toks).2 = toks := by
  fun_induction World.setup w items toks with
  | case1 w toks => exact ⟨[], (List.append_nil _).symm, rfl⟩
  | case2 w it rest toks _ c hk ih =>  -- occupied
    obtain ⟨l, e, h⟩ := ih
    rw [entryScoped_created, if_neg (by simp [hk])] at e
    exact ⟨l, e, h⟩
  | case3 w it rest _ t toks hk ih =>  -- vacant: the default takes the token `t`
    obtain ⟨l, e, h⟩ := ih
    rw [entryScoped_created, if_pos (Or.inr hk), List.append_assoc] at e
    exact ⟨t :: l, e, congrArg (t :: ·) h⟩
  | case4 w it rest _ _ ih => exact ih  -- vacant, no token left
  | case5 w it rest toks _ ih => exact ih  -- no default handler

theorem step_created_eq (w : World) (op : Op) :
    ∃ l, (w.step op).1.created = w.created ++ l ∧ l.Sublist op.tokens := by
  have none' : ∃ l, w.created = w.created ++ l ∧ l.Sublist [] :=
    ⟨[], (List.append_nil _).symm, List.nil_sublist _⟩
  have insert' : ∀ a k t, ∃ l, (w.insertById a k t).1.created = w.created ++ l ∧ l.Sublist [t] :=
    fun a k t => ⟨_, insertById_created w a k t, List.Sublist.refl _⟩
  have setup' : ∀ items toks, ∃ l, (w.setup items toks).1.created = w.created ++ l ∧ l.Sublist toks := by
    intro items toks
    obtain ⟨l, e, h⟩ := setup_created_eq w items toks
    exact ⟨l, e, h ▸ List.sublist_append_left _ _⟩
  have entry' : ∀ ty t bv, ∃ l, (w.entryScoped ty t bv).1.created = w.created ++ l ∧ l.Sublist [t] := by
    intro ty t bv
    rw [entryScoped_created]
    split
    · exact ⟨[t], rfl, List.Sublist.refl _⟩
    · exact ⟨[], (List.append_nil _).symm, List.nil_sublist _⟩
  cases hm : op.isMut with
  | false =>
    exact ⟨[], by rw [(step_same_of_not_mut w op hm).created, List.append_nil], List.nil_sublist _⟩
  | true =>
    cases op with
    | insert _ _ | insertById _ _ _ => exact insert' _ _ _
    | remove _ | removeById _ _ => exact (removeById_created w _ _).symm ▸ none'
    | entry ty tok bv => exact entry' ty tok bv
    | getMut _ | getMutRaw _ => exact none'
    | setup items toks => exact setup' items toks
    | exec items toks => exact (exec_same w items toks).created ▸ setup' items toks
    | insertFused a k tok => exact insertFused_fst w a k tok ▸ insert' a k tok
    | entryFault ty tok f =>
      cases f with
      | guardHeld bv => exact entryFault_guardHeld_fst w ty tok bv ▸ entry' ty tok bv
      | valueDrop =>
        rw [step, entryFault_valueDrop]
        split
        · exact ⟨_, rfl, List.Sublist.refl _⟩
        · exact entry' ty tok true
      | closure =>
        rw [step, entryFault_closure]
        split
        · next h =>
          -- an occupied slot: `f` would not have run
          rw [entryScoped_created, if_neg fun o => o.elim nofun (Option.isSome_iff_ne_none.mp h)]
          exact none'
        · exact none'
    | execFault items toks =>
      exact (execFault_spec w items toks).1 ▸ (exec_same w items toks).created ▸ setup' items toks
    | _ => cases hm

theorem run_created_eq (w : World) (ops : List Op) :
    ∃ l, (w.run ops).created = w.created ++ l ∧ l.Sublist (ops.flatMap Op.tokens) := by
  induction ops generalizing w with
  | nil => exact ⟨[], (List.append_nil _).symm, List.nil_sublist _⟩
  | cons op ops ih =>
    obtain ⟨l1, e1, h1⟩ := step_created_eq w op
    obtain ⟨l2, e2, h2⟩ := ih (w.step op).1
    exact ⟨l1 ++ l2, by rw [run, e2, e1, List.append_assoc], by rw [List.flatMap_cons]; exact h1.append h2⟩

theorem run_created_nodup {w : World} (ops : List Op) (hn : (w.created ++ ops.flatMap Op.tokens).Nodup) :
    (w.run ops).created.Nodup := by
  obtain ⟨l, e, h⟩ := run_created_eq w ops
  rw [e]
  exact hn.sublist ((List.Sublist.refl _).append h)

/-- a fetch of `k` answers a borrow panic (only if the resource is present), or exactly what the
map says: a guard showing the stored value, or `None` / the "does not exist" panic -/
def FetchOk (m : ResId → Option Nat) (k : ResId) (orPanic : Bool) (o : Out) : Prop :=
  (∃ p, o = .panic p ∧ p ≠ .absent ∧ p ≠ .wrongType ∧ (m k).isSome) ∨
  (match m k with
    | some t => ∃ h, o = .guard h t
    | none => o = if orPanic then .panic .absent else .none)

/-- the answer of every operation as a function of the abstract map alone -/
def OutOk (m : ResId → Option Nat) : Op → Out → Prop
  | .insert _ _, o => o = .unit
  | .insertById a k _, o => o = if a ≠ k.ty then .panic .wrongType else .unit
  | .remove ty, o => o = match m ⟨ty, 0⟩ with | some t => .value t | none => .none
  | .removeById a k, o => o = if a ≠ k.ty then .panic .wrongType else
      match m k with | some t => .value t | none => .none
  | .entry ty tok _, o => o = .seen ((m ⟨ty, 0⟩).getD tok)
  | .hasValue ty, o => o = .bool (m ⟨ty, 0⟩).isSome
  | .hasValueRaw k, o => o = .bool (m k).isSome
  | .getMut ty, o => o = match m ⟨ty, 0⟩ with | some t => .seen t | none => .none
  | .getMutRaw k, o => o = match m k with | some t => .seen t | none => .none
  | .setup _ _, o => o = .unit
  | .exec items toks, o => (∃ p, o = .panic p) ∨ ∃ fs, o = .data fs ∧ FieldsAgree (absSetup m items toks) items fs
  | .fetch ty, o => FetchOk m ⟨ty, 0⟩ true o
  | .fetchMut ty, o => FetchOk m ⟨ty, 0⟩ true o
  | .tryFetch ty, o => FetchOk m ⟨ty, 0⟩ false o
  | .tryFetchMut ty, o => FetchOk m ⟨ty, 0⟩ false o
  | .tryFetchById a k, o => if a ≠ k.ty then o = .panic .wrongType else FetchOk m k false o
  | .tryFetchMutById a k, o => if a ≠ k.ty then o = .panic .wrongType else FetchOk m k false o
  | .systemData items, o => (∃ p, o = .panic p) ∨ ∃ fs, o = .data fs ∧ FieldsAgree m items fs
  | .metaNext tys idx _, o =>
      (o = .none ∧ ∀ ty ∈ tys.drop idx, m ⟨ty, 0⟩ = none) ∨
      (∃ pre ty post, tys.drop idx = pre ++ ty :: post ∧ (∀ t ∈ pre, m ⟨t, 0⟩ = none) ∧
        (m ⟨ty, 0⟩).isSome ∧ FetchOk m ⟨ty, 0⟩ false o)
  | .clone _, _ => True
  | .drop _, o => o = .unit
  | .scope _ _ _, o => ∃ seen fin, o = .scopeDone seen fin
  | .insertFused a k _, o => o = if a ≠ k.ty then .panic .wrongType else
      if (m k).isSome then .unwound .drop else .unit
  | .entryFault _ _ (.guardHeld _), o => o = .unwound .closure
  | .entryFault ty tok .valueDrop, o => o = if (m ⟨ty, 0⟩).isSome then .unwound .drop else .seen tok
  | .entryFault ty _ .closure, o => o = match m ⟨ty, 0⟩ with | some t => .seen t | none => .unwound .closure
  | .execFault _ _, o => (∃ p, o = .panic p) ∨ o = .unwound .closure

theorem fetchCore_fetchOk {w : World} {k : ResId} {excl : Bool} {f : Form} {orPanic : Bool} :
    FetchOk w.abs k orPanic (w.fetchCore k excl f orPanic).2 := by
  refine (fetchCore_out_abs w k excl f orPanic).imp id fun h => ?_
  cases hm : w.abs k with
  | none => rw [hm] at h; exact h
  | some t => rw [hm] at h; exact ⟨_, h⟩

/-- the two by-id fetches: the type-id assertion, then the fetch -/
theorem byId_out {w : World} {a : Nat} {k : ResId} {excl : Bool} {r : World × Out}
    (hr : r = if a ≠ k.ty then (w, .panic .wrongType) else w.fetchCore k excl .byId false) :
    if a ≠ k.ty then r.2 = .panic .wrongType else FetchOk w.abs k false r.2 := by
  by_cases h : a ≠ k.ty
  · rw [hr, if_pos h, if_pos h]
  · rw [hr, if_neg h, if_neg h]; exact fetchCore_fetchOk

theorem hasValueRaw_out (w : World) (k : ResId) : (w.hasValueRaw k).2 = .bool (w.abs k).isSome :=
  congrArg Out.bool abs_isSome.symm

theorem getMutRaw_out (w : World) (k : ResId) :
    (w.getMutRaw k).2 = match w.abs k with | some t => .seen t | none => .none := by
  unfold getMutRaw World.abs
  cases w.get k <;> rfl

theorem insertFused_out (w : World) (a : Nat) (k : ResId) (t : Nat) :
    (w.insertFused a k t).2 =
      if a ≠ k.ty then .panic .wrongType else if (w.abs k).isSome then .unwound .drop else .unit := by
  rw [insertFused_eq, abs_isSome]

theorem exec_out (w : World) (items : List SdItem) (toks : List Nat) :
    (∃ p, (w.exec items toks).2 = .panic p) ∨
      ∃ fs, (w.exec items toks).2 = .data fs ∧ FieldsAgree (absSetup w.abs items toks) items fs := by
  rcases exec_cases w items toks with ⟨_, fs, hr, he, _⟩ | ⟨_, p, _, _, he, _⟩ <;> rw [he]
  · exact Or.inr ⟨fs, rfl, setup_abs w items toks ▸ sysData_fields _ items fs (congrArg Prod.snd hr)⟩
  · exact Or.inl ⟨p, rfl⟩

theorem linear_once {w : World} (hl : Linear w) (hn : w.created.Nodup) (t : Nat) (ht : t ∈ w.created) :
    w.tokens.count t + w.returned.count t + w.dropped.count t = 1 := by
  rw [hl t, hn.count, if_pos ht]

theorem linear_none {w : World} (hl : Linear w) (t : Nat) (ht : t ∉ w.created) :
    t ∉ w.tokens ∧ t ∉ w.returned ∧ t ∉ w.dropped := by
  have := hl t
  rw [List.count_eq_zero.mpr ht] at this
  obtain ⟨h12, h3⟩ := Nat.add_eq_zero_iff.mp this
  obtain ⟨h1, h2⟩ := Nat.add_eq_zero_iff.mp h12
  exact ⟨List.count_eq_zero.mp h1, List.count_eq_zero.mp h2, List.count_eq_zero.mp h3⟩

theorem linear_dropped_nodup {w : World} (hl : Linear w) (hn : w.created.Nodup) : w.dropped.Nodup := by
  rw [List.nodup_iff_count]
  intro t
  have := hl t
  have := List.nodup_iff_count.mp hn t
  omega

theorem dropWorld_linear {w : World} (hl : Linear w) : Linear w.dropWorld ∧ w.dropWorld.tokens = [] := by
  refine ⟨?_, rfl⟩
  intro t
  have := hl t
  simp only [dropWorld, World.tokens, List.map_nil, List.count_nil, List.count_append] at this ⊢
  omega

/-- `C09.linear` from any world that satisfies the data invariants -/
theorem run_linear {w : World} (hm : MapOk w) (ops : List Op) (hd : (w.created ++ ops.flatMap Op.tokens).Nodup)
    (t : Nat) :
    let w' := w.run ops
    (t ∈ w'.created → w'.tokens.count t + w'.returned.count t + w'.dropped.count t = 1) ∧
    (t ∉ w'.created → t ∉ w'.tokens ∧ t ∉ w'.returned ∧ t ∉ w'.dropped) ∧
    w'.dropped.Nodup ∧ (∀ x ∈ w'.created, x ∈ w.created ++ ops.flatMap Op.tokens) := by
  intro w'
  have hl := (run_mapOk hm ops).linear
  have hn := run_created_nodup ops hd
  refine ⟨linear_once hl hn t, linear_none hl t, linear_dropped_nodup hl hn, ?_⟩
  obtain ⟨l, e, h⟩ := run_created_eq w ops
  intro x hx
  rw [show w'.created = _ from e] at hx
  exact ((List.Sublist.refl _).append h).subset hx

theorem fetchCore_not_wrongType {w : World} {k : ResId} {excl : Bool} {f : Form} {orPanic : Bool} :
    (w.fetchCore k excl f orPanic).2 ≠ .panic .wrongType := by
  rcases fetchCore_cases w k excl f orPanic with ⟨_, h⟩ | ⟨c, _, _, h⟩ | ⟨c, b', _, _, h⟩ <;> rw [h]
  · cases orPanic <;> nofun
  · exact fun e => borrowPanic_ne_wrongType _ _ _ (Out.panic.inj e)
  · nofun

theorem sysData_not_wrongType {w : World} {items : List SdItem} : (w.sysData items).2 ≠ .panic .wrongType := by
  rcases sysData_out w items with ⟨w2, fs, h⟩ | ⟨w2, p, h, hne⟩ <;> rw [h]
  · nofun
  · exact fun e => hne (Out.panic.inj e)

theorem entryScoped_not_wrongType {w : World} {ty t : Nat} {bv : Bool} :
    (w.entryScoped ty t bv).2 ≠ .panic .wrongType := by
  intro h
  have he := entryScoped_eq_of_panic h
  rw [he] at h
  exact fetchCore_not_wrongType h

theorem exec_not_wrongType (w : World) (items : List SdItem) (toks : List Nat) :
    (w.exec items toks).2 ≠ .panic .wrongType ∧ (w.execFault items toks).2 ≠ .panic .wrongType := by
  rcases exec_cases w items toks with ⟨_, _, _, h1, h2⟩ | ⟨_, _, _, hne, h1, h2⟩ <;> rw [h1, h2]
  · exact ⟨nofun, nofun⟩
  · exact ⟨fun e => hne (Out.panic.inj e), fun e => hne (Out.panic.inj e)⟩

theorem dropReturned_linear {w : World} (hl : Linear w) (t : Nat) : Linear (w.dropReturned t) := by
  unfold dropReturned
  split
  · next hm =>
    intro x
    have := hl x
    -- `t` moves from `returned` to the end of `dropped`
    have hp : w.returned.count x = (t :: w.returned.erase t).count x := (List.perm_cons_erase hm).count_eq x
    show w.tokens.count x + (w.returned.erase t).count x + (w.dropped ++ [t]).count x = w.created.count x
    rw [List.count_append, List.count_singleton]
    rw [List.count_cons] at hp
    omega
  · exact hl

/-- a duplicate-free selection `d` of `l` and the rest of `l` make up `l`, for every value that occurs
in `l` at most once -/
theorem count_selection {d l : List Nat} {p : Nat → Bool} (hd : d.Nodup) (hs : ∀ x ∈ d, x ∈ l)
    (hp : ∀ x, p x = true ↔ x ∉ d) (t : Nat) (h1 : l.count t ≤ 1) :
    d.count t + (l.filter p).count t = l.count t := by
  by_cases hm : t ∈ d
  · have : (l.filter p).count t = 0 :=
      List.count_eq_zero.mpr fun h => (hp t).mp (List.mem_filter.mp h).2 hm
    have := List.count_pos_iff.mpr (hs t hm)
    rw [hd.count, if_pos hm]
    omega
  · rw [List.count_eq_zero.mpr hm, List.count_filter ((hp t).mpr hm), Nat.zero_add]

/-- **the world dropped while one `Drop` panics**: every value the world held is afterwards dropped
or leaked, never both, never twice -/
theorem dropWorldPanic_once {w w' : World} {tok : Nat} {before leaked : List Nat} (hl : Linear w)
    (hn : w.created.Nodup) (h : w.dropWorldPanic tok before = some (w', leaked)) (t : Nat) (ht : t ∈ w.created) :
    w'.dropped.count t + w'.returned.count t + leaked.count t = 1 ∧ w'.cells = [] := by
  unfold dropWorldPanic at h
  simp only [] at h
  split at h
  · next hc =>
    obtain ⟨h1, h2, h3, h4⟩ := hc
    cases h
    refine ⟨?_, rfl⟩
    have hlin := linear_once hl hn t ht
    -- the values dropped now, `before ++ [tok]`, are a duplicate-free selection of the stored ones
    have hsel := count_selection (d := before ++ [tok]) (l := w.tokens)
      (p := fun t => decide (t ≠ tok ∧ t ∉ before))
      (List.nodup_append.mpr ⟨h3, List.pairwise_singleton _ _, fun a ha b hb e => h2 (List.mem_singleton.mp hb ▸ e ▸ ha)⟩)
      (fun x hx => (List.mem_append.mp hx).elim (h4 x) fun hb => List.mem_singleton.mp hb ▸ h1)
      (fun x => by simp only [decide_eq_true_eq, List.mem_append, List.mem_singleton, not_or, and_comm])
      t (by omega)
    show (w.dropped ++ before ++ [tok]).count t + w.returned.count t + (List.filter _ w.tokens).count t = 1
    rw [List.append_assoc, List.count_append]
    omega
  · cases h

end Shred
