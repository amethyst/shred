import ShredModel.Lemmas.Reach
import ShredModel.Lemmas.Dispatch
import ShredModel.Lemmas.ListAux
/-!
# From builder invariants to facts about the executed table and its task

The executed table `b.stages` of a reachable builder holds every registered system once, its
groups of one stage do not conflict (`IsoTable`), and it orders `A` before `B` whenever the
zipped view does (`TOrdered`). What the plan `dispatchTask` inherits — instances, `WF`,
`Before` — are the `dispatchOf` facts (`Lemmas/Dispatch.lean`) at leaves.
-/
namespace Shred
open Shred.Task

/-- **C04/C20 lock-step**: the table that is executed equals the table that is printed -/
theorem stages_eq_ids {D Dep g z} (h : GoodZ D Dep g z) : g.b.stages = g.b.ids := by
  rw [stages_eq_of_zips h.zips, ids_eq_of_zips h.zips]
  apply List.map_congr_left
  intro st hst
  apply List.map_congr_left
  intro gr hgr
  exact (h.fit st hst gr hgr).pair

theorem GoodZ.count_stages {D Dep g z} (h : GoodZ D Dep g z) (x : SysTag) :
    g.b.stages.flatten.flatten.count x = if x < g.n then 1 else 0 := by
  -- `GoodZ.ids` counts every id below `n` once in the zipped table; `fit.pair` makes `sys` and `ids` one table
  rw [stages_eq_ids h, ids_eq_of_zips h.zips, List.flatten_flatten, List.map_map, ← h.ids x]
  rfl

theorem GoodZ.mem_stages {D Dep g z} (h : GoodZ D Dep g z) (x : SysTag) :
    x ∈ g.b.stages.flatten.flatten ↔ x < g.n :=
  mem_iff_of_count_lt h.count_stages x

theorem GoodZ.registered_iff {D Dep g z} (h : GoodZ D Dep g z) (x : SysTag) :
    x < g.n ↔ ∃ gr, gr ∈ z.stages.flatten ∧ x ∈ gr.sys := by
  rw [← h.mem_stages x, stages_eq_of_zips h.zips, ← List.map_flatten, ← List.flatMap_def, List.mem_flatMap]

theorem GoodZ.nodup_stages {D Dep g z} (h : GoodZ D Dep g z) : g.b.stages.flatten.flatten.Nodup :=
  nodup_of_count_lt h.count_stages

theorem GoodZ.nodup_tags {D Dep g z} (h : GoodZ D Dep g z) {tl : List SysTag} (htl : tl.Nodup)
    (hfresh : ∀ t, t ∈ tl → g.n ≤ t) : (g.b.stages.flatten.flatten ++ tl).Nodup :=
  List.nodup_append.mpr ⟨h.nodup_stages, htl, fun a ha b hb hab =>
    Nat.not_lt.mpr (hfresh b hb) (hab ▸ (h.mem_stages a).mp ha)⟩

/-- groups of a stage never hold conflicting systems (on the executed table) -/
def IsoTable (D : SysTag → Decl) (stages : Table (List SysTag)) : Prop :=
  ∀ st, st ∈ stages → ∀ (i j : Nat) (gi gj : List SysTag), st[i]? = some gi → st[j]? = some gj → i ≠ j →
    ∀ a, a ∈ gi → ∀ c, c ∈ gj → ¬ conflictsD (D a) (D c)

theorem isoTable_of_good {D Dep g z} (h : GoodZ D Dep g z) : IsoTable D g.b.stages := by
  rw [stages_eq_of_zips h.zips]
  intro st' hst' i j gi gj hi hj hij a ha c hc
  obtain ⟨st, hst, rfl⟩ := List.mem_map.mp hst'
  obtain ⟨zi, hzi, rfl⟩ := exists_of_getElem?_map hi
  obtain ⟨zj, hzj, rfl⟩ := exists_of_getElem?_map hj
  exact (h.ok st hst).iso i j zi zj hzi hzj hij a ha c hc

theorem GoodZ.getElem?_stages {D Dep g z} (h : GoodZ D Dep g z) {s : Nat} {st : ZStage}
    (hs : z.stages[s]? = some st) : g.b.stages[s]? = some (st.map (·.sys)) :=
  stages_eq_of_zips h.zips ▸ getElem?_map_of_some _ hs

theorem tOrdered_of_good {D Dep g z} (h : GoodZ D Dep g z) {A B : Nat} (ho : OrderedBefore z A B) :
    TOrdered g.b.stages A B := by
  have hpair : ∀ {s : Nat} {st : ZStage} {gr : ZGroup}, z.stages[s]? = some st → gr ∈ st → gr.sys = gr.ids :=
    fun hs hgr => (h.fit _ (List.mem_of_getElem? hs) _ hgr).pair
  rcases ho with ⟨sa, sb, hlt, ⟨sta, ga, hsa, hga, hA⟩, ⟨stb, gb, hsb, hgb, hB⟩⟩ |
      ⟨s, st, k, gr, i, j, hs, hk, hij, hi, hj⟩
  · refine .inl ⟨sa, sb, _, _, hlt, h.getElem?_stages hsa, h.getElem?_stages hsb, ?_, ?_⟩
    · exact List.mem_flatten.mpr ⟨ga.sys, List.mem_map_of_mem hga, hpair hsa hga ▸ hA⟩
    · exact List.mem_flatten.mpr ⟨gb.sys, List.mem_map_of_mem hgb, hpair hsb hgb ▸ hB⟩
  · have hsys := hpair hs (List.mem_of_getElem? hk)
    exact .inr ⟨s, _, k, gr.sys, i, j, h.getElem?_stages hs, getElem?_map_of_some _ hk, hij,
      hsys ▸ hi, hsys ▸ hj⟩

theorem sys_stagesTask (t : Table (List SysTag)) : (stagesTask t).sys = t.flatten.flatten :=
  (sys_stagesOf true .leaf t).trans (List.flatMap_singleton' _)

theorem sys_dispatchTask (t : Table (List SysTag)) (tl : List SysTag) :
    (dispatchTask t tl).sys = t.flatten.flatten ++ tl := by
  rw [dispatchTask_eq, sys_dispatchOf, List.map_id]
  exact congrArg (· ++ tl) (List.flatMap_singleton' _)

theorem wf_dispatchTask {D Dep g z} (h : GoodZ D Dep g z) (tl : List SysTag) :
    WF (CompatD D) (dispatchTask g.b.stages tl) :=
  wf_dispatchOf (par := true) (f := .leaf) (k := id) (tl := tl)
    (hf := fun _ => trivial)
    (hR := fun _ _ h _ hx _ hy => List.mem_singleton.mp hx ▸ List.mem_singleton.mp hy ▸ h)
    (hiso := isoTable_of_good h)

theorem nodup_dispatchTask {D Dep g z} (h : GoodZ D Dep g z) (tl : List SysTag) (htl : tl.Nodup)
    (hfresh : ∀ t, t ∈ tl → g.n ≤ t) : (dispatchTask g.b.stages tl).sys.Nodup :=
  sys_dispatchTask _ tl ▸ h.nodup_tags htl hfresh

theorem noScope_dispatchTask (t : Table (List SysTag)) (tl : List SysTag) :
    (dispatchTask t tl).NoScope :=
  noScope_dispatchOf (par := true) (f := .leaf) (k := id) (hf := fun _ => trivial) t tl

theorem before_of_tOrdered {t : Table (List SysTag)} {A B : Nat} (h : TOrdered t A B) (tl : List SysTag) :
    Before (dispatchTask t tl) A B :=
  before_dispatchOf_ordered (par := true) (f := .leaf) (k := id) (tl := tl) h
    (List.mem_singleton.mpr rfl) (List.mem_singleton.mpr rfl)

theorem before_of_ordered {D Dep g z} (h : GoodZ D Dep g z) {A B : Nat} (ho : OrderedBefore z A B)
    (tl : List SysTag) : Before (dispatchTask g.b.stages tl) A B :=
  before_of_tOrdered (tOrdered_of_good h ho) tl

/-- a staged system is before every thread-local system; thread-local systems keep their order -/
theorem before_tl {t : Table (List SysTag)} {tl : List SysTag} {x y : Nat}
    (hx : x ∈ t.flatten.flatten) (hy : y ∈ tl) : Before (dispatchTask t tl) x y :=
  before_dispatchOf_tl (par := true) (f := .leaf) (k := id) hx hy (List.mem_singleton.mpr rfl)

theorem before_tl_order {t : Table (List SysTag)} {tl : List SysTag} {i j : Nat} {x y : Nat}
    (hi : tl[i]? = some x) (hj : tl[j]? = some y) (hij : i < j) : Before (dispatchTask t tl) x y :=
  before_dispatchOf_tl_order (par := true) (f := .leaf) (k := id) (stages := t) hi hj hij

end Shred
