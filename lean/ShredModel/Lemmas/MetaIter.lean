import ShredModel.Lemmas.Meta
/-!
# The `MetaTable` model (C17): whole iterations

Relative to the world `w0` a call starts in, the iterator is a list iterator, as long as every
registered present cell can be borrowed in the iterator's way and has an address-preserving cast. Its
state is the pair of `kept`, the types of the items that are alive, and `L`, the types still to come;
`DInv` ties the pair to the model's state. `next` moves the head of `L` to the end of `kept`, dropping
an item takes it out of `kept`; every loop of the model (`collect`, `nth`, the adapters, the consumers)
is defined from these two operations, and its theorem follows by induction on the types it hands on.
A loop that keeps every item (`collectN`) gets by with `Borrowable`, which is all
`C17_iter_spec_any_vtable` assumes; `nth` and the consumers behind an adapter drop items on the way
and need `Usable`. `zipN` and `Ran.unwind` have no lemma: the driver runs them, and `zipN` has an
example in `Props/C17.lean`.
-/
namespace Shred
namespace Meta
open MetaTable

/-- a cell after one more successful borrow of the given kind -/
def borrowCell (excl : Bool) (c : MCell) : MCell :=
  { c with borrow := (Shred.tryBorrow c.borrow excl).getD c.borrow }

/-- what `next` needs of the world for the types in `l` -/
def Borrowable (cast : CastFn) (l : List Nat) (w : MWorld) (excl : Bool) : Prop :=
  ∀ ty ∈ l, ∀ c, w.cell ty = some c →
    (Shred.tryBorrow c.borrow excl).isSome ∧ (cast ty c.addr).addr = c.addr

/-- `Borrowable`, and every flag is well-formed (`shared 0` is not a state of an `AtomicRefCell`), so
that a dropped item leaves its cell as it was -/
def Usable (cast : CastFn) (regs : List Nat) (w : MWorld) (excl : Bool) : Prop :=
  ∀ ty ∈ regs, ∀ c, w.cell ty = some c →
    (Shred.tryBorrow c.borrow excl).isSome ∧ (cast ty c.addr).addr = c.addr ∧ c.borrow ≠ .shared 0

theorem Usable.borrowable {cast : CastFn} {l : List Nat} {w : MWorld} {excl : Bool}
    (h : Usable cast l w excl) : Borrowable cast l w excl :=
  fun ty hty c hc => ⟨(h ty hty c hc).1, (h ty hty c hc).2.1⟩

theorem Borrowable.addr_eq {cast : CastFn} {l : List Nat} {w : MWorld} {excl : Bool}
    (h : Borrowable cast l w excl) {ty : Nat} (hty : ty ∈ l) (hp : w.present ty = true) :
    (cast ty (addrOf w ty)).addr = addrOf w ty := by
  obtain ⟨c, hc⟩ := Option.isSome_iff_exists.mp hp
  simp [addrOf, hc, (h ty hty c hc).2]

/-- the state of a call relative to the world `w0` it started in: exactly the cells of `kept` (the
items alive) carry one more borrow, all of them lie before the cursor `i`, and `L` is still to be
yielded. To drive an operation is to run it from such a state: the operation's lemma (its name
followed by `_drive`: `next_drive_nil`, `next_drive_cons`, `nth_drive`, `collectVia_drive`, …) gives
what it returns and the `DInv` after it. -/
structure DInv (t : MetaTable) (excl : Bool) (w0 w : MWorld) (i : Nat) (kept L : List Nat) : Prop where
  cells : ∀ k, w.cell k = if k ∈ kept then (w0.cell k).map (borrowCell excl) else w0.cell k
  before : ∀ ty ∈ kept, ty ∈ t.tys.take i
  rem : remaining t w0 i = L

theorem exists_fuel {n fuel : Nat} (h : n < fuel) : ∃ m, fuel = m + 1 :=
  Nat.exists_eq_add_one_of_ne_zero (Nat.ne_zero_of_lt h)

section
variable {cast : CastFn} {t : MetaTable} {excl : Bool} {w0 w w' : MWorld} {i i' fuel : Nat}
  {kept L : List Nat} {it' : MIter} {p : TraitPtr} {ad ad' : Adapter}

theorem DInv.start (h : remaining t w i = L) : DInv t excl w w i [] L :=
  ⟨by intro k; simp, by simp, h⟩

theorem DInv.cell_eq_none (hd : DInv t excl w0 w i kept L) {x : Nat} (h : w0.cell x = none) :
    w.cell x = none := by
  rw [hd.cells]
  split <;> simp [h]

/-- `next` when nothing is left: `None`, nothing changes -/
theorem next_drive_nil (hd : DInv t excl w0 w i kept []) :
    ∃ i', t.next cast w ⟨i, excl⟩ = (w, ⟨i', excl⟩, .none) ∧ DInv t excl w0 w i' kept [] :=
  ⟨_, next_miss cast excl fun x hx => hd.cell_eq_none (remaining_nil hd.rem x hx), hd.cells,
    fun ty hty => mem_take_of_le (Nat.le_add_right ..) (hd.before ty hty),
    remaining_past t w0 i⟩

/-- `next` when `ty` is the first type left: its item, kept -/
theorem next_drive_cons {ty : Nat} {L' : List Nat} (hinv : MetaInv t)
    (hok : Borrowable cast t.tys w0 excl) (hd : DInv t excl w0 w i kept (ty :: L')) :
    ∃ w' i', t.next cast w ⟨i, excl⟩ = (w', ⟨i', excl⟩, .item (cast ty (addrOf w0 ty))) ∧
      t.slotTy i' = ty ∧ DInv t excl w0 w' i' (kept ++ [ty]) L' ∧ ty ∉ kept := by
  obtain ⟨pre, rest, c, hdrop, hpre, hc0, hrest⟩ := remaining_cons hd.rem
  have hidx := (drop_eq_append_cons hdrop).1
  have hmem_drop : ty ∈ t.tys.drop i := hdrop ▸ List.mem_append_right _ List.mem_cons_self
  -- `tys` is duplicate-free: what lies before the cursor does not come again
  have hnk : ty ∉ kept := fun h =>
    (List.nodup_append.mp ((List.take_append_drop i t.tys).symm ▸ hinv.nodup)).2.2
      ty (hd.before ty h) ty hmem_drop rfl
  have hc : w.cell ty = some c := by rw [hd.cells, if_neg hnk, hc0]
  obtain ⟨hb, hcast⟩ := hok ty (List.mem_of_mem_drop hmem_drop) c hc0
  obtain ⟨b', hb'⟩ := Option.isSome_iff_exists.mp hb
  refine ⟨w.set ty (some { c with borrow := b' }), i + pre.length + 1, ?next, ?slot,
    ⟨?cells, ?before, hrest⟩, hnk⟩
  case next =>
    rw [next_hit cast excl hinv.vt hdrop (fun x hx => hd.cell_eq_none (hpre x hx)) hc]
    simp [hb', hcast, addrOf, hc0]
  case slot => simp [MetaTable.slotTy, hidx]
  case cells =>
    intro k
    rw [MWorld.set_cell]
    by_cases hk : k = ty
    · subst hk
      simp [hc0, borrowCell, hb']
    · rw [if_neg hk, hd.cells]
      simp [hk]
  case before =>
    intro x hx
    rcases List.mem_append.mp hx with hx | hx
    · exact mem_take_of_le (Nat.le_succ_of_le (Nat.le_add_right ..)) (hd.before x hx)
    · rw [List.mem_singleton.mp hx]
      exact List.mem_of_getElem? ((List.getElem?_take_of_lt (Nat.lt_succ_self _)).trans hidx)

/-- dropping an item that is alive -/
theorem release_drive {ty : Nat} (hok : Usable cast t.tys w0 excl) (hd : DInv t excl w0 w i kept L)
    (hty : ty ∈ kept) : DInv t excl w0 (w.release ty) i (kept.filter (· ≠ ty)) L := by
  refine ⟨fun k => ?_, fun x hx => hd.before x (List.mem_filter.mp hx).1, hd.rem⟩
  rw [MWorld.release_cell, hd.cells]
  by_cases hk : k = ty
  · subst hk
    rw [if_pos rfl, if_pos hty, if_neg (by simp)]
    cases h0 : w0.cell k with
    | none => rfl
    | some c =>
      obtain ⟨hb, _, hwf⟩ := hok k (List.mem_of_mem_take (hd.before k hty)) c h0
      obtain ⟨b', hb'⟩ := Option.isSome_iff_exists.mp hb
      simp [borrowCell, hb', releaseBorrow_tryBorrow hb' hwf]
  · rw [if_neg hk, hd.cells]
    simp [List.mem_filter, hk]

theorem release_drive_last {ty : Nat} (hok : Usable cast t.tys w0 excl)
    (hd : DInv t excl w0 w i (kept ++ [ty]) L) (hnk : ty ∉ kept) :
    DInv t excl w0 (w.release ty) i kept L := by
  have hf : (kept ++ [ty]).filter (· ≠ ty) = kept := by
    rw [List.filter_append,
      List.filter_eq_self.mpr fun a ha => by simpa using fun e : a = ty => hnk (e ▸ ha)]
    simp
  exact hf ▸ release_drive hok hd (List.mem_append_right _ (List.mem_singleton_self ty))

theorem collectN_none (acc : List TraitPtr) (h : t.next cast w ⟨i, excl⟩ = (w', it', .none)) :
    collectN cast t excl (fuel + 1) w i acc = ⟨w', it'.index, acc, none⟩ := by
  rw [collectN, h]

theorem collectN_panic {e : MPanic} (acc : List TraitPtr)
    (h : t.next cast w ⟨i, excl⟩ = (w', it', .panic e)) :
    collectN cast t excl (fuel + 1) w i acc = ⟨w', it'.index, acc, some e⟩ := by
  rw [collectN, h]

theorem collectN_item (acc : List TraitPtr) (h : t.next cast w ⟨i, excl⟩ = (w', it', .item p)) :
    collectN cast t excl (fuel + 1) w i acc = collectN cast t excl fuel w' it'.index (acc ++ [p]) := by
  rw [collectN, h]

/-- `tys.len() + 1` calls are always enough: more fuel changes nothing -/
theorem collect_fuel (cast : CastFn) (t : MetaTable) (excl : Bool) :
    ∀ (fuel : Nat) (w : MWorld) (i : Nat) (acc : List TraitPtr), t.tys.length - i < fuel →
      collectN cast t excl (fuel + 1) w i acc = collectN cast t excl fuel w i acc := by
  intro fuel
  induction fuel with
  | zero => intro w i acc h; exact absurd h (Nat.not_lt_zero _)
  | succ n ih =>
    intro w i acc h
    have hp := nextFrom_progress cast t.vtableFns excl (t.tys.drop i) i w
    cases hn : t.next cast w ⟨i, excl⟩ with
    | mk w' r =>
      obtain ⟨it', o⟩ := r
      cases o with
      | none => rw [collectN_none acc hn, collectN_none acc hn]
      | panic e => rw [collectN_panic acc hn, collectN_panic acc hn]
      | item p =>
        rw [collectN_item acc hn, collectN_item acc hn]
        have h1 : (nextFrom cast t.vtableFns excl (t.tys.drop i) i w).out = .item p :=
          congrArg (·.2.2) hn
        have h2 : (nextFrom cast t.vtableFns excl (t.tys.drop i) i w).index = it'.index :=
          congrArg (·.2.1.index) hn
        have := hp (by rw [h1]; exact NextOut.noConfusion)
        rw [h2, List.length_drop] at this
        exact ih w' it'.index (acc ++ [p]) (by omega)

theorem collectN_drive (hinv : MetaInv t) (hok : Borrowable cast t.tys w0 excl) {acc : List TraitPtr}
    (hd : DInv t excl w0 w i kept L) (hf : L.length < fuel) :
    ∃ w' i', collectN cast t excl fuel w i acc =
        ⟨w', i', acc ++ L.map (fun ty => cast ty (addrOf w0 ty)), none⟩ ∧
      DInv t excl w0 w' i' (kept ++ L) [] := by
  induction L generalizing fuel w i acc kept with
  | nil =>
    obtain ⟨n, rfl⟩ := exists_fuel hf
    obtain ⟨i', hn, hd'⟩ := next_drive_nil (cast := cast) hd
    exact ⟨w, i', by rw [collectN_none acc hn, List.map_nil, List.append_nil],
      by rw [List.append_nil]; exact hd'⟩
  | cons ty L ih =>
    obtain ⟨n, rfl⟩ := exists_fuel hf
    obtain ⟨w', i', hn, _, hd', _⟩ := next_drive_cons hinv hok hd
    obtain ⟨w'', i'', he, hd''⟩ := ih (acc := acc ++ [cast ty (addrOf w0 ty)]) hd'
      (Nat.lt_of_succ_lt_succ hf)
    exact ⟨w'', i'',
      by rw [collectN_item acc hn, he, List.map_cons, List.append_assoc, List.singleton_append],
      by rw [← List.singleton_append, ← List.append_assoc]; exact hd''⟩

theorem advanceBy_none {n : Nat} (h : t.next cast w ⟨i, excl⟩ = (w', it', .none)) :
    advanceBy cast t excl (n + 1) w i = (w', it'.index, .short) := by
  rw [advanceBy, h]

theorem advanceBy_item {n : Nat} (h : t.next cast w ⟨i, excl⟩ = (w', it', .item p)) :
    advanceBy cast t excl (n + 1) w i =
      advanceBy cast t excl n (w'.release (t.slotTy it'.index)) it'.index := by
  rw [advanceBy, h]

theorem nth_none {n : Nat} (h : t.next cast w ⟨i, excl⟩ = (w', it', .none)) :
    t.nth cast w ⟨i, excl⟩ (n + 1) = (w', ⟨it'.index, excl⟩, .none) := by
  simp only [MetaTable.nth, advanceBy_none h]

theorem nth_item {n : Nat} (h : t.next cast w ⟨i, excl⟩ = (w', it', .item p)) :
    t.nth cast w ⟨i, excl⟩ (n + 1) =
      t.nth cast (w'.release (t.slotTy it'.index)) ⟨it'.index, excl⟩ n := by
  simp only [MetaTable.nth, advanceBy_item h]

/-- `nth(n)` is `next` after `n` items have been handed out and dropped again (all, if there are
fewer) -/
theorem nth_drive (hinv : MetaInv t) (hok : Usable cast t.tys w0 excl)
    (hd : DInv t excl w0 w i kept L) (n : Nat) :
    ∃ w1 i1, t.nth cast w ⟨i, excl⟩ n = t.next cast w1 ⟨i1, excl⟩ ∧
      DInv t excl w0 w1 i1 kept (L.drop n) := by
  induction n generalizing w i L with
  | zero => exact ⟨w, i, rfl, hd⟩
  | succ n ih =>
    cases L with
    | nil =>
      -- the `next` that finds nothing is the answer
      obtain ⟨i', hn, _⟩ := next_drive_nil (cast := cast) hd
      exact ⟨w, i, by rw [nth_none hn, hn], hd⟩
    | cons ty L' =>
      obtain ⟨w', i', hn, hslot, hd', hnk⟩ := next_drive_cons hinv hok.borrowable hd
      obtain ⟨w1, i1, h1, hd1⟩ := ih (release_drive_last hok hd' hnk)
      exact ⟨w1, i1, by rw [nth_item hn, hslot]; exact h1, hd1⟩

theorem nth_drive_nil {n : Nat} (hinv : MetaInv t) (hok : Usable cast t.tys w0 excl)
    (hd : DInv t excl w0 w i kept L) (hL : L.drop n = []) :
    ∃ w' i', t.nth cast w ⟨i, excl⟩ n = (w', ⟨i', excl⟩, .none) ∧ DInv t excl w0 w' i' kept [] := by
  obtain ⟨w1, i1, hn, hd1⟩ := nth_drive hinv hok hd n
  obtain ⟨i', hnext, hd'⟩ := next_drive_nil (cast := cast) (hL ▸ hd1)
  exact ⟨w1, i', hn.trans hnext, hd'⟩

theorem nth_drive_cons {n ty : Nat} {L' : List Nat} (hinv : MetaInv t)
    (hok : Usable cast t.tys w0 excl) (hd : DInv t excl w0 w i kept L) (hL : L.drop n = ty :: L') :
    ∃ w' i', t.nth cast w ⟨i, excl⟩ n = (w', ⟨i', excl⟩, .item (cast ty (addrOf w0 ty))) ∧
      t.slotTy i' = ty ∧ DInv t excl w0 w' i' (kept ++ [ty]) L' ∧ ty ∉ kept := by
  obtain ⟨w1, i1, hn, hd1⟩ := nth_drive hinv hok hd n
  obtain ⟨w', i', hnext, h⟩ := next_drive_cons hinv hok.borrowable (hL ▸ hd1)
  exact ⟨w', i', hn.trans hnext, h⟩

/-- `step_by(s + 1)` on a list, `c` elements still to be dropped before the next one is taken -/
def stepSel (s : Nat) : Nat → List Nat → List Nat
  | _, [] => []
  | 0, x :: xs => x :: stepSel s s xs
  | c + 1, _ :: xs => stepSel s c xs

/-- which of the types left an adapter hands on: all; all but the first `n`; for `.stepBy s first`
(`s` is the argument of `step_by` minus one) every `(s + 1)`-th, beginning with the first if `first`
and with the `(s + 1)`-th otherwise; the first `n` -/
def sel : Adapter → List Nat → List Nat
  | .plain, L => L
  | .skip n, L => L.drop n
  | .stepBy s first, L => stepSel s (if first then 0 else s) L
  | .take n, L => L.take n

/-- the types left when the adapter has answered `None`: `take(n)` stops after `n` items without
asking the iterator again, the others run it to the end -/
def adRest : Adapter → List Nat → List Nat
  | .take n, L => L.drop n
  | _, _ => []

theorem stepSel_drop (s : Nat) : ∀ (c : Nat) (L : List Nat), stepSel s c L = stepSel s 0 (L.drop c) := by
  intro c
  induction c with
  | zero => intro L; simp
  | succ c ih =>
    intro L
    cases L with
    | nil => simp [stepSel]
    | cons x xs => simp only [stepSel, List.drop_succ_cons]; exact ih xs

theorem stepSel_eq_nil {s c : Nat} {L : List Nat} (h : stepSel s c L = []) : L.drop c = [] := by
  rw [stepSel_drop] at h
  cases hL : L.drop c with
  | nil => rfl
  | cons x xs => rw [hL] at h; cases h

theorem stepSel_eq_cons {s c ty : Nat} {L S' : List Nat} (h : stepSel s c L = ty :: S') :
    ∃ L', L.drop c = ty :: L' ∧ stepSel s s L' = S' := by
  rw [stepSel_drop] at h
  cases hL : L.drop c with
  | nil => rw [hL] at h; cases h
  | cons x xs =>
    rw [hL] at h
    injection h with h1 h2
    exact ⟨xs, h1 ▸ rfl, h2⟩

theorem sel_sublist (ad : Adapter) (L : List Nat) : (sel ad L).Sublist L := by
  cases ad with
  | plain => exact List.Sublist.refl L
  | skip n => exact List.drop_sublist n L
  | take n => exact List.take_sublist n L
  | stepBy s first =>
    show (stepSel s (if first then 0 else s) L).Sublist L
    generalize (if first then 0 else s) = c
    induction L generalizing c with
    | nil => exact List.Sublist.refl _
    | cons x xs ih =>
      cases c with
      | zero => exact (ih s).cons_cons x
      | succ c => exact (ih c).cons x

/-- the fuel `tys.len() + 1` of the model's loops is enough for all that an adapter hands on -/
theorem DInv.sel_length_lt (hd : DInv t excl w0 w i kept L) (ad : Adapter) :
    (sel ad L).length < t.tys.length + 1 :=
  Nat.lt_succ_of_le (Nat.le_trans (sel_sublist ad L).length_le (hd.rem ▸ remaining_length_le t w0 i))

/-- `next` of an adapter when it has nothing left to hand on: `None`, and the iterator is left with
`adRest ad L` -/
theorem adNext_drive_nil (hinv : MetaInv t) (hok : Usable cast t.tys w0 excl)
    (hd : DInv t excl w0 w i kept L) (hS : sel ad L = []) :
    ∃ ad' w' i', adNext cast t excl ad w i = (ad', w', i', .none) ∧
      DInv t excl w0 w' i' kept (adRest ad L) := by
  -- `take(0)` answers without asking the iterator; `plain` and `take(n + 1)` ask it for `next`, `skip n` for
  -- `nth(n)`, `stepBy s first` for `nth(0)` if `first` and for `nth(s)` otherwise; `hS` says that `L` has no
  -- element of the index asked for
  cases ad with
  | plain =>
    obtain rfl : L = [] := hS
    obtain ⟨i', hn, hd'⟩ := next_drive_nil (cast := cast) hd
    exact ⟨.plain, w, i', by simp only [adNext, hn], hd'⟩
  | skip n =>
    obtain ⟨w', i', hn, hd'⟩ := nth_drive_nil hinv hok hd (hS : L.drop n = [])
    exact ⟨.skip 0, w', i', by simp only [adNext, hn], hd'⟩
  | stepBy s first =>
    obtain ⟨w', i', hn, hd'⟩ := nth_drive_nil hinv hok hd (stepSel_eq_nil hS)
    exact ⟨.stepBy s false, w', i', by simp only [adNext, hn], hd'⟩
  | take n =>
    cases n with
    | zero => exact ⟨.take 0, w, i, rfl, hd⟩
    | succ n =>
      obtain rfl : L = [] := (List.take_eq_nil_iff.mp hS).resolve_left (Nat.succ_ne_zero n)
      obtain ⟨i', hn, hd'⟩ := next_drive_nil (cast := cast) hd
      exact ⟨.take n, w, i', by simp only [adNext, hn], hd'⟩

/-- `next` of an adapter when `ty` is the first type it has to hand on: its item, kept; the adapter
goes on as `ad'`, the iterator with the `L'` behind `ty` -/
theorem adNext_drive_cons {ty : Nat} {S' : List Nat} (hinv : MetaInv t)
    (hok : Usable cast t.tys w0 excl) (hd : DInv t excl w0 w i kept L) (hS : sel ad L = ty :: S') :
    ∃ ad' w' i' L', adNext cast t excl ad w i = (ad', w', i', .item (cast ty (addrOf w0 ty))) ∧
      sel ad' L' = S' ∧ adRest ad' L' = adRest ad L ∧
      t.slotTy i' = ty ∧ DInv t excl w0 w' i' (kept ++ [ty]) L' ∧ ty ∉ kept := by
  -- the same calls of the iterator; `hS` says that the element of `L` at the index asked for is `ty`
  cases ad with
  | plain =>
    obtain rfl : L = ty :: S' := hS
    obtain ⟨w', i', hn, h⟩ := next_drive_cons hinv hok.borrowable hd
    exact ⟨.plain, w', i', S', by simp only [adNext, hn], rfl, rfl, h⟩
  | skip n =>
    obtain ⟨w', i', hn, h⟩ := nth_drive_cons hinv hok hd (hS : L.drop n = ty :: S')
    exact ⟨.skip 0, w', i', S', by simp only [adNext, hn], rfl, rfl, h⟩
  | stepBy s first =>
    obtain ⟨L', hL, hS'⟩ := stepSel_eq_cons hS
    obtain ⟨w', i', hn, h⟩ := nth_drive_cons hinv hok hd hL
    exact ⟨.stepBy s false, w', i', L', by simp only [adNext, hn], hS', rfl, h⟩
  | take n =>
    cases n with
    | zero => cases hS
    | succ n =>
      cases L with
      | nil => cases hS
      | cons x xs =>
        injection hS with h1 h2
        subst h1
        obtain ⟨w', i', hn, h⟩ := next_drive_cons hinv hok.borrowable hd
        exact ⟨.take n, w', i', xs, by simp only [adNext, hn], h2, rfl, h⟩

theorem collectVia_none (kept : List (Nat × TraitPtr))
    (h : adNext cast t excl ad w i = (ad', w', i', .none)) :
    collectVia cast t excl (fuel + 1) ad w i kept = ⟨w', i', kept, kept.length, none⟩ := by
  rw [collectVia, h]

theorem collectVia_item (kept : List (Nat × TraitPtr))
    (h : adNext cast t excl ad w i = (ad', w', i', .item p)) :
    collectVia cast t excl (fuel + 1) ad w i kept =
      collectVia cast t excl fuel ad' w' i' (kept ++ [(t.slotTy i', p)]) := by
  rw [collectVia, h]

/-- `collect` / `for_each` / `fold`: no panic, the items of `sel ad L` in order, exactly their cells
borrowed once more -/
theorem collectVia_drive (hinv : MetaInv t) (hok : Usable cast t.tys w0 excl) {S : List Nat}
    {kept : List (Nat × TraitPtr)} (hd : DInv t excl w0 w i (kept.map (·.1)) L)
    (hS : sel ad L = S) (hf : S.length < fuel) :
    ∃ w' i', collectVia cast t excl fuel ad w i kept =
        ⟨w', i', kept ++ S.map (fun ty => (ty, cast ty (addrOf w0 ty))),
          (kept ++ S.map (fun ty => (ty, cast ty (addrOf w0 ty)))).length, none⟩ ∧
      DInv t excl w0 w' i' (kept.map (·.1) ++ S) (adRest ad L) := by
  induction S generalizing fuel ad w i kept L with
  | nil =>
    obtain ⟨n, rfl⟩ := exists_fuel hf
    obtain ⟨ad', w', i', hn, hd'⟩ := adNext_drive_nil (cast := cast) hinv hok hd hS
    exact ⟨w', i', by rw [collectVia_none kept hn, List.map_nil, List.append_nil],
      by rwa [List.append_nil]⟩
  | cons ty S ih =>
    obtain ⟨n, rfl⟩ := exists_fuel hf
    obtain ⟨ad', w', i', L', hn, hsel, hrest, hslot, hd', _⟩ := adNext_drive_cons hinv hok hd hS
    obtain ⟨w'', i'', he, hd''⟩ := ih (kept := kept ++ [(ty, cast ty (addrOf w0 ty))])
      (by rw [List.map_append]; exact hd') hsel (Nat.lt_of_succ_lt_succ hf)
    rw [List.append_assoc, List.singleton_append] at he
    rw [List.map_append, List.append_assoc, hrest] at hd''
    exact ⟨w'', i'', by rw [collectVia_item kept hn, hslot]; exact he, hd''⟩

theorem lastVia_none (prev : Option (Nat × TraitPtr)) (seen : Nat)
    (h : adNext cast t excl ad w i = (ad', w', i', .none)) :
    lastVia cast t excl (fuel + 1) ad w i prev seen = ⟨w', i', prev.toList, seen, none⟩ := by
  rw [lastVia, h]

theorem lastVia_item (prev : Option (Nat × TraitPtr)) (seen : Nat)
    (h : adNext cast t excl ad w i = (ad', w', i', .item p)) :
    lastVia cast t excl (fuel + 1) ad w i prev seen =
      lastVia cast t excl fuel ad' (dropPrev w' prev) i' (some (t.slotTy i', p)) (seen + 1) := by
  rw [lastVia, h]

/-- `last()`: no panic, the item of the last type of `sel ad L` (else what was there before) alive,
no other -/
theorem lastVia_drive (hinv : MetaInv t) (hok : Usable cast t.tys w0 excl) {S : List Nat}
    {prev : Option (Nat × TraitPtr)} {seen : Nat} (hd : DInv t excl w0 w i (prev.toList.map (·.1)) L)
    (hS : sel ad L = S) (hf : S.length < fuel) :
    ∃ w' i', lastVia cast t excl fuel ad w i prev seen =
        ⟨w', i', (S.getLast?.map (fun ty => (ty, cast ty (addrOf w0 ty))) <|> prev).toList,
          seen + S.length, none⟩ ∧
      DInv t excl w0 w' i'
        ((S.getLast?.map (fun ty => (ty, cast ty (addrOf w0 ty))) <|> prev).toList.map (·.1))
        (adRest ad L) := by
  induction S generalizing fuel ad w i prev seen L with
  | nil =>
    obtain ⟨n, rfl⟩ := exists_fuel hf
    obtain ⟨ad', w', i', hn, hd'⟩ := adNext_drive_nil (cast := cast) hinv hok hd hS
    exact ⟨w', i', by rw [lastVia_none prev seen hn]; rfl, hd'⟩
  | cons ty S ih =>
    obtain ⟨n, rfl⟩ := exists_fuel hf
    obtain ⟨ad', w', i', L', hn, hsel, hrest, hslot, hd', hnk⟩ := adNext_drive_cons hinv hok hd hS
    have hdrop : DInv t excl w0 (dropPrev w' prev) i' [ty] L' := by
      cases prev with
      | none => exact hd'
      | some pv =>
        -- the item held so far is dropped: `[pv.1, ty]` without `pv.1`
        have hne : ty ≠ pv.1 := fun e => hnk (by simp [e])
        simpa [dropPrev, List.filter_cons, hne] using release_drive (ty := pv.1) hok hd' (by simp)
    obtain ⟨w'', i'', he, hd''⟩ := ih (prev := some (ty, cast ty (addrOf w0 ty))) (seen := seen + 1)
      hdrop hsel (Nat.lt_of_succ_lt_succ hf)
    -- the last of `ty :: S` is the last of `S` if there is one, else `ty`
    have hlast (f : Nat → Nat × TraitPtr) :
        ((ty :: S).getLast?.map f <|> prev) = (S.getLast?.map f <|> some (f ty)) := by
      rw [List.getLast?_cons]; cases S.getLast? <;> rfl
    rw [hlast, List.length_cons, Nat.add_comm S.length, ← Nat.add_assoc]
    exact ⟨w'', i'', by rw [lastVia_item prev seen hn, hslot]; exact he, hrest ▸ hd''⟩

theorem countVia_none (seen : Nat) (h : adNext cast t excl ad w i = (ad', w', i', .none)) :
    countVia cast t excl (fuel + 1) ad w i seen = ⟨w', i', [], seen, none⟩ := by
  rw [countVia, h]

theorem countVia_item (seen : Nat) (h : adNext cast t excl ad w i = (ad', w', i', .item p)) :
    countVia cast t excl (fuel + 1) ad w i seen =
      countVia cast t excl fuel ad' (w'.release (t.slotTy i')) i' (seen + 1) := by
  rw [countVia, h]

/-- `count()`: no panic, the number of types in `sel ad L`, no item alive -/
theorem countVia_drive (hinv : MetaInv t) (hok : Usable cast t.tys w0 excl) {S : List Nat}
    {seen : Nat} (hd : DInv t excl w0 w i [] L) (hS : sel ad L = S) (hf : S.length < fuel) :
    ∃ w' i', countVia cast t excl fuel ad w i seen = ⟨w', i', [], seen + S.length, none⟩ ∧
      DInv t excl w0 w' i' [] (adRest ad L) := by
  induction S generalizing fuel ad w i seen L with
  | nil =>
    obtain ⟨n, rfl⟩ := exists_fuel hf
    obtain ⟨ad', w', i', hn, hd'⟩ := adNext_drive_nil (cast := cast) hinv hok hd hS
    exact ⟨w', i', countVia_none seen hn, hd'⟩
  | cons ty S ih =>
    obtain ⟨n, rfl⟩ := exists_fuel hf
    obtain ⟨ad', w', i', L', hn, hsel, hrest, hslot, hd', hnk⟩ := adNext_drive_cons hinv hok hd hS
    obtain ⟨w'', i'', he, hd''⟩ := ih (seen := seen + 1) (release_drive_last hok hd' hnk) hsel
      (Nat.lt_of_succ_lt_succ hf)
    exact ⟨w'', i'',
      by rw [countVia_item seen hn, hslot, he, List.length_cons, Nat.add_comm S.length, Nat.add_assoc],
      hrest ▸ hd''⟩

end

end Meta
end Shred
