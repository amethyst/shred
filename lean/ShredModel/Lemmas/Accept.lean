import ShredModel.Model.Task
/-!
# The acceptor decides the trace semantics

`RStep t e t'` is one step of a residual task: the traces of `t` that begin with `e` are `e` followed
by a trace of such a `t'`. `RTask.deriv` takes only such steps (`rstep_of_deriv`, hence
`accepts_sound`) and, when the instances of `t` are pairwise distinct, finds every one
(`deriv_of_rstep`, hence `accepts_complete`); `accepts_toR_iff` transfers both to source tasks.
Every property proved about `Traces` thus holds of every recorded trace the driver accepts, and no
legal trace is ever rejected.
-/
namespace Shred
open RTask
variable {ι : Type}

theorem Shuffle.perm {α} {a b l : List α} (h : Shuffle a b l) : l.Perm (a ++ b) := by
  induction h with
  | nil => exact .nil
  | left _ ih => exact ih.cons _
  | right _ ih => exact (ih.cons _).trans List.perm_middle.symm

theorem Shuffle.mem_iff {α} {a b l : List α} (h : Shuffle a b l) {e : α} : e ∈ l ↔ e ∈ a ∨ e ∈ b := by
  rw [h.perm.mem_iff, List.mem_append]

theorem shuffle_count {α} [DecidableEq α] {la lb l : List α} (hs : Shuffle la lb l) (x : α) :
    l.count x = la.count x + lb.count x := by
  rw [hs.perm.count_eq, List.count_append]

theorem Shuffle.symm {α} {a b l : List α} (h : Shuffle a b l) : Shuffle b a l := by
  induction h with
  | nil => exact .nil
  | left _ ih => exact .right ih
  | right _ ih => exact .left ih

theorem shuffle_append {α} (a b : List α) : Shuffle a b (a ++ b) := by
  induction a with
  | nil =>
    induction b with
    | nil => exact .nil
    | cons y b ih => exact .right ih
  | cons x a ih => exact .left ih

theorem shuffle_append_inv {α} {l2 : List α} : ∀ {l1 la lb : List α}, Shuffle la lb (l1 ++ l2) →
    ∃ a1 a2 b1 b2, la = a1 ++ a2 ∧ lb = b1 ++ b2 ∧ Shuffle a1 b1 l1 ∧ Shuffle a2 b2 l2 := by
  intro l1
  induction l1 with
  | nil => exact fun {la lb} h => ⟨[], la, [], lb, rfl, rfl, .nil, h⟩
  | cons x l1 ih =>
    intro la lb h
    rw [List.cons_append] at h
    cases h with
    | left h =>
      obtain ⟨a1, a2, b1, b2, rfl, rfl, h1, h2⟩ := ih h
      exact ⟨x :: a1, a2, b1, b2, rfl, rfl, .left h1, h2⟩
    | right h =>
      obtain ⟨a1, a2, b1, b2, rfl, rfl, h1, h2⟩ := ih h
      exact ⟨a1, a2, x :: b1, b2, rfl, rfl, .right h1, h2⟩

theorem shuffle_prefix {α} {la lb l p : List α} (hs : Shuffle la lb l) (hp : p <+: l) :
    ∃ pa pb, pa <+: la ∧ pb <+: lb ∧ Shuffle pa pb p := by
  obtain ⟨t, rfl⟩ := hp
  obtain ⟨a1, a2, b1, b2, rfl, rfl, h1, _⟩ := shuffle_append_inv hs
  exact ⟨a1, b1, List.prefix_append _ _, List.prefix_append _ _, h1⟩

/-- cut a shuffle at an event that can only have come from the left list -/
theorem shuffle_split_left {α} {la lb l1 l2 : List α} {e : α} (hs : Shuffle la lb (l1 ++ e :: l2)) (he : e ∉ lb) :
    ∃ a1 a2 b1 b2, la = a1 ++ e :: a2 ∧ lb = b1 ++ b2 ∧ Shuffle a1 b1 l1 ∧ Shuffle a2 b2 l2 := by
  obtain ⟨a1, a2, b1, b2, rfl, rfl, h1, h2⟩ := shuffle_append_inv hs
  cases h2 with
  | left h2 => exact ⟨a1, _, b1, _, rfl, rfl, h1, h2⟩
  | right h2 => exact absurd (List.mem_append_right _ List.mem_cons_self) he

theorem traces_nil_nullable {t : RTask ι} (h : RTraces t []) : nullable t = true := by
  generalize hl : ([] : List (Ev ι)) = l at h
  induction h with
  | nil => rfl
  | leaf s => cases hl
  | closing s => cases hl
  | seq _ _ iha ihb =>
    obtain ⟨rfl, rfl⟩ := List.nil_eq_append_iff.mp hl
    simp [nullable, iha rfl, ihb rfl]
  | par _ _ hs iha ihb =>
    subst hl
    cases hs
    simp [nullable, iha rfl, ihb rfl]
  | scope _ _ => cases hl
  | scopeOpen _ _ => simp at hl

theorem nullable_traces (t : RTask ι) : nullable t = true → RTraces t [] := by
  induction t with
  | nil => exact fun _ => .nil
  | seq a b iha ihb =>
    intro h
    simp only [nullable, Bool.and_eq_true] at h
    exact RTraces.seq (iha h.1) (ihb h.2)
  | par a b iha ihb =>
    intro h
    simp only [nullable, Bool.and_eq_true] at h
    exact RTraces.par (iha h.1) (ihb h.2) .nil
  | leaf | closing | scope | scopeOpen => intro h; cases h

theorem rtask_has_trace (r : RTask ι) : ∃ l, RTraces r l := by
  induction r with
  | nil => exact ⟨_, .nil⟩
  | leaf s => exact ⟨_, .leaf s⟩
  | closing s => exact ⟨_, .closing s⟩
  | seq a b iha ihb =>
    obtain ⟨_, ha⟩ := iha
    obtain ⟨_, hb⟩ := ihb
    exact ⟨_, .seq ha hb⟩
  | par a b iha ihb =>
    obtain ⟨la, ha⟩ := iha
    obtain ⟨lb, hb⟩ := ihb
    exact ⟨_, .par ha hb (shuffle_append la lb)⟩
  | scope _ _ ih => obtain ⟨_, h⟩ := ih; exact ⟨_, .scope h⟩
  | scopeOpen _ _ ih => obtain ⟨_, h⟩ := ih; exact ⟨_, .scopeOpen h⟩

/-! Inversion of a trace, one lemma per constructor (avoids dependent elimination). -/

theorem traces_seq_inv {a b : RTask ι} {l : List (Ev ι)} (h : RTraces (.seq a b) l) :
    ∃ la lb, l = la ++ lb ∧ RTraces a la ∧ RTraces b lb := by
  cases h with | seq h1 h2 => exact ⟨_, _, rfl, h1, h2⟩

theorem traces_par_inv {a b : RTask ι} {l : List (Ev ι)} (h : RTraces (.par a b) l) :
    ∃ la lb, Shuffle la lb l ∧ RTraces a la ∧ RTraces b lb := by
  cases h with | par h1 h2 hs => exact ⟨_, _, hs, h1, h2⟩

theorem traces_scopeOpen_inv {s : ι} {body : RTask ι} {l : List (Ev ι)} (h : RTraces (.scopeOpen s body) l) :
    ∃ lb, l = lb ++ [.D s] ∧ RTraces body lb := by
  cases h with | scopeOpen h1 => exact ⟨_, rfl, h1⟩

theorem traces_scope_inv {s : ι} {body : RTask ι} {l : List (Ev ι)} (h : RTraces (.scope s body) l) :
    ∃ lb, l = .F s :: lb ++ [.D s] ∧ RTraces body lb := by
  cases h with | scope h1 => exact ⟨_, rfl, h1⟩

theorem toR_sys (t : Task ι) : t.toR.sys = t.sys := by
  induction t <;> simp [Task.toR, RTask.sys, Task.sys, *]

theorem traces_toR {t : Task ι} {l : List (Ev ι)} (h : Traces t l) : RTraces t.toR l := by
  induction h with
  | nil => exact .nil
  | leaf s => exact .leaf s
  | seq _ _ iha ihb => exact .seq iha ihb
  | par _ _ hs iha ihb => exact .par iha ihb hs
  | scope _ ih => exact .scope ih

theorem traces_of_toR (t : Task ι) (l : List (Ev ι)) (h : RTraces t.toR l) : Traces t l := by
  induction t generalizing l with
  | nil => cases h; exact .nil
  | leaf s => cases h; exact .leaf s
  | seq a b iha ihb =>
    obtain ⟨la, lb, rfl, h1, h2⟩ := traces_seq_inv h
    exact .seq (iha la h1) (ihb lb h2)
  | par a b iha ihb =>
    obtain ⟨la, lb, hs, h1, h2⟩ := traces_par_inv h
    exact .par (iha la h1) (ihb lb h2) hs
  | scope s body ih =>
    obtain ⟨lb, rfl, h1⟩ := traces_scope_inv h
    exact .scope (ih lb h1)

/-! One step of the acceptor as a relation: the cases of `deriv`, without the conditions that the left
part refused the event. -/

inductive RStep : RTask ι → Ev ι → RTask ι → Prop
  | leaf (s) : RStep (.leaf s) (.F s) (.closing s)
  | closing (s) : RStep (.closing s) (.D s) .nil
  | seqL {a a' b e} : RStep a e a' → RStep (.seq a b) e (.seq a' b)
  | seqR {a b b' e} : nullable a = true → RStep b e b' → RStep (.seq a b) e b'
  | parL {a a' b e} : RStep a e a' → RStep (.par a b) e (.par a' b)
  | parR {a b b' e} : RStep b e b' → RStep (.par a b) e (.par a b')
  | scope (s body) : RStep (.scope s body) (.F s) (.scopeOpen s body)
  | body {s body b' e} : RStep body e b' → RStep (.scopeOpen s body) e (.scopeOpen s b')
  | close {s body} : nullable body = true → RStep (.scopeOpen s body) (.D s) .nil

theorem RStep.sys_mem {t t' : RTask ι} {e : Ev ι} (h : RStep t e t') : e.sys ∈ sys t := by
  induction h with
  | leaf | closing | scope | close => exact List.mem_cons_self
  | seqL _ ih | parL _ ih => exact List.mem_append_left _ ih
  | seqR _ _ ih | parR _ ih => exact List.mem_append_right _ ih
  | body _ ih => exact List.mem_cons_of_mem _ ih

theorem RStep.sys_sublist {t t' : RTask ι} {e : Ev ι} (h : RStep t e t') : (sys t').Sublist (sys t) := by
  induction h with
  | leaf | scope => exact .refl _
  | closing | close => exact List.nil_sublist _
  | seqL _ ih | parL _ ih => exact ih.append (.refl _)
  | seqR _ _ ih => exact ih.trans (List.sublist_append_right _ _)
  | parR _ ih => exact (List.Sublist.refl _).append ih
  | body _ ih => exact ih.cons_cons _

theorem RStep.sound {t t' : RTask ι} {e : Ev ι} (h : RStep t e t') {l : List (Ev ι)} (ht : RTraces t' l) :
    RTraces t (e :: l) := by
  induction h generalizing l with
  | leaf s => cases ht; exact .leaf s
  | closing s => cases ht; exact .closing s
  | seqL _ ih =>
    cases ht with
    | seq h1 h2 => exact .seq (ih h1) h2
  | seqR hn _ ih => exact .seq (nullable_traces _ hn) (ih ht)
  | parL _ ih =>
    cases ht with
    | par h1 h2 hs => exact .par (ih h1) h2 (.left hs)
  | parR _ ih =>
    cases ht with
    | par h1 h2 hs => exact .par h1 (ih h2) (.right hs)
  | scope s body =>
    cases ht with
    | scopeOpen hb => exact .scope hb
  | body _ ih =>
    cases ht with
    | scopeOpen h1 => exact .scopeOpen (ih h1)
  | close hn => cases ht; exact .scopeOpen (nullable_traces _ hn)

theorem RStep.of_traces (t : RTask ι) {e : Ev ι} {l : List (Ev ι)} (h : RTraces t (e :: l)) :
    ∃ t', RStep t e t' ∧ RTraces t' l := by
  induction t generalizing e l with
  | nil => cases h
  | leaf s => cases h; exact ⟨_, .leaf s, .closing s⟩
  | closing s => cases h; exact ⟨_, .closing s, .nil⟩
  | seq a b iha ihb =>
    obtain ⟨la, lb, heq, h1, h2⟩ := traces_seq_inv h
    cases la with
    | nil =>
      cases heq
      obtain ⟨b', hb', htr⟩ := ihb h2
      exact ⟨b', .seqR (traces_nil_nullable h1) hb', htr⟩
    | cons e' la =>
      cases heq
      obtain ⟨a', ha', htr⟩ := iha h1
      exact ⟨_, .seqL ha', .seq htr h2⟩
  | par a b iha ihb =>
    obtain ⟨la, lb, hs, h1, h2⟩ := traces_par_inv h
    generalize hl : e :: l = el at hs
    cases hs with
    | nil => cases hl
    | left hs' =>
      cases hl
      obtain ⟨a', ha', htr⟩ := iha h1
      exact ⟨_, .parL ha', .par htr h2 hs'⟩
    | right hs' =>
      cases hl
      obtain ⟨b', hb', htr⟩ := ihb h2
      exact ⟨_, .parR hb', .par h1 htr hs'⟩
  | scope s body _ =>
    obtain ⟨lb, heq, h1⟩ := traces_scope_inv h
    cases heq
    exact ⟨_, .scope s body, .scopeOpen h1⟩
  | scopeOpen s body ih =>
    obtain ⟨lb, heq, h1⟩ := traces_scopeOpen_inv h
    cases lb with
    | nil => cases heq; exact ⟨_, .close (traces_nil_nullable h1), .nil⟩
    | cons e' lb =>
      cases heq
      obtain ⟨b', hb', htr⟩ := ih h1
      exact ⟨_, .body hb', .scopeOpen htr⟩

variable [DecidableEq ι]

theorem rstep_of_deriv (t : RTask ι) {e : Ev ι} {t' : RTask ι} (h : deriv t e = some t') : RStep t e t' := by
  induction t generalizing e t' with
  | nil => cases h
  | leaf s =>
    simp only [deriv, Option.ite_none_right_eq_some, Option.some.injEq] at h
    obtain ⟨rfl, rfl⟩ := h; exact .leaf s
  | closing s =>
    simp only [deriv, Option.ite_none_right_eq_some, Option.some.injEq] at h
    obtain ⟨rfl, rfl⟩ := h; exact .closing s
  | seq a b iha ihb =>
    cases ha : deriv a e with
    | some a' =>
      simp only [deriv, ha, Option.some.injEq] at h
      exact h ▸ .seqL (iha ha)
    | none =>
      simp only [deriv, ha, Option.ite_none_right_eq_some] at h
      exact .seqR h.1 (ihb h.2)
  | par a b iha ihb =>
    cases ha : deriv a e with
    | some a' =>
      simp only [deriv, ha, Option.some.injEq] at h
      exact h ▸ .parL (iha ha)
    | none =>
      simp only [deriv, ha, Option.map_eq_some_iff] at h
      obtain ⟨b', hb, rfl⟩ := h
      exact .parR (ihb hb)
  | scope s body _ =>
    simp only [deriv, Option.ite_none_right_eq_some, Option.some.injEq] at h
    obtain ⟨rfl, rfl⟩ := h; exact .scope s body
  | scopeOpen s body ih =>
    cases hb : deriv body e with
    | some b' =>
      simp only [deriv, hb, Option.some.injEq] at h
      exact h ▸ .body (ih hb)
    | none =>
      simp only [deriv, hb, Option.ite_none_right_eq_some, Bool.and_eq_true, decide_eq_true_eq,
        Option.some.injEq] at h
      obtain ⟨⟨hn, rfl⟩, rfl⟩ := h
      exact .close hn

theorem deriv_none_of_not_sys {t : RTask ι} {e : Ev ι} (h : e.sys ∉ sys t) : deriv t e = none := by
  cases hd : deriv t e with
  | none => rfl
  | some t' => exact absurd (rstep_of_deriv t hd).sys_mem h

theorem accepts_sound : ∀ (l : List (Ev ι)) (t : RTask ι), accepts t l = true → RTraces t l := by
  intro l
  induction l with
  | nil => intro t h; exact nullable_traces t h
  | cons e l ih =>
    intro t h
    cases ht : deriv t e with
    | some t' => exact (rstep_of_deriv t ht).sound (ih t' (by simpa only [accepts, ht] using h))
    | none => simp only [accepts, ht] at h; cases h

/-- with pairwise distinct instances the acceptor finds every step: the part it offers the event to
first does not know the instance -/
theorem deriv_of_rstep {t t' : RTask ι} {e : Ev ι} (h : RStep t e t') : (sys t).Nodup → deriv t e = some t' := by
  induction h with
  | leaf s | closing s | scope s body => intro _; simp [deriv]
  | seqL _ ih | parL _ ih => intro hnd; simp [deriv, ih (List.nodup_append.mp hnd).1]
  | seqR hn hb ih =>
    intro hnd
    obtain ⟨_, hnb, hdisj⟩ := List.nodup_append.mp hnd
    simp [deriv, deriv_none_of_not_sys fun h => hdisj _ h _ hb.sys_mem rfl, hn, ih hnb]
  | parR hb ih =>
    intro hnd
    obtain ⟨_, hnb, hdisj⟩ := List.nodup_append.mp hnd
    simp [deriv, deriv_none_of_not_sys fun h => hdisj _ h _ hb.sys_mem rfl, ih hnb]
  | body _ ih => intro hnd; simp [deriv, ih (List.nodup_cons.mp hnd).2]
  | @close s body hn =>
    intro hnd
    simp [deriv, deriv_none_of_not_sys (e := .D s) (List.nodup_cons.mp hnd).1, hn]

theorem accepts_complete : ∀ (l : List (Ev ι)) (t : RTask ι), (sys t).Nodup → RTraces t l → accepts t l = true := by
  intro l
  induction l with
  | nil => intro t _ h; exact traces_nil_nullable h
  | cons e l ih =>
    intro t hnd h
    obtain ⟨t', hs, htr⟩ := RStep.of_traces t h
    simp only [accepts, deriv_of_rstep hs hnd]
    exact ih t' (hs.sys_sublist.nodup hnd) htr

theorem accepts_iff (t : RTask ι) (hnd : (sys t).Nodup) (l : List (Ev ι)) : accepts t l = true ↔ RTraces t l :=
  ⟨accepts_sound l t, accepts_complete l t hnd⟩

/-- **The acceptor is exact**: a recorded event list is accepted for plan task `t` iff it is one
of `t`'s traces. -/
theorem accepts_toR_iff (t : Task ι) (hnd : t.sys.Nodup) (l : List (Ev ι)) :
    t.toR.accepts l = true ↔ Traces t l := by
  rw [accepts_iff t.toR (by rw [toR_sys]; exact hnd)]
  exact ⟨traces_of_toR t l, traces_toR⟩

end Shred
