import ShredModel.Model.Builder
/-!
# `DispatcherBuilder::add`, branch by branch

`lookup` on a map with one more entry; `resolve` in closed form (`resolve_eq`: the first unknown
name, or every name looked up); and `add` itself, which ends in one of three ways — an unknown
dependency, a taken name, or the registration goes through (`add_cases`).
-/
namespace Shred
namespace DispatcherBuilder

theorem lookup_cons (p : String × SysId) (m : List (String × SysId)) (x : String) :
    lookup (p :: m) x = if p.1 == x then some p.2 else lookup m x := by
  simp only [lookup, List.find?_cons]
  cases p.1 == x <;> rfl

theorem lookup_eq_some {m : List (String × SysId)} {x : String} {id : SysId} (h : lookup m x = some id) :
    (x, id) ∈ m := by
  unfold lookup at h
  cases hf : m.find? fun p => p.1 == x with
  | none => rw [hf] at h; cases h
  | some p =>
    rw [hf] at h
    cases h
    have := List.find?_some hf
    rw [← eq_of_beq this]
    exact List.mem_of_find?_eq_some hf

theorem lookup_rename (f : String → String) (hf : ∀ a b, f a = f b → a = b)
    (m : List (String × SysId)) (x : String) :
    lookup (m.map fun p => (f p.1, p.2)) (f x) = lookup m x := by
  induction m with
  | nil => rfl
  | cons p m ih =>
    rw [List.map_cons, lookup_cons, lookup_cons, ih]
    by_cases h : p.1 = x
    · simp [h]
    · have : f p.1 ≠ f x := fun e => h (hf _ _ e)
      simp [h, this]

theorem resolve_eq (m : List (String × SysId)) (deps : List String) :
    resolve m deps = match deps.find? fun x => (lookup m x).isNone with
      | some x => .error x
      | none => .ok (deps.filterMap (lookup m)) := by
  induction deps with
  | nil => rfl
  | cons x xs ih =>
    rw [resolve, List.find?_cons, List.filterMap_cons]
    cases lookup m x with
    | none => rfl
    | some id =>
      rw [ih]
      cases xs.find? fun x => (lookup m x).isNone <;> rfl

theorem resolve_ok {m : List (String × SysId)} {deps : List String} {ids : List SysId}
    (h : resolve m deps = .ok ids) :
    (∀ x, x ∈ deps → (lookup m x).isSome) ∧ ids = deps.filterMap (lookup m) := by
  rw [resolve_eq] at h
  cases hf : deps.find? fun x => (lookup m x).isNone with
  | some x => rw [hf] at h; cases h
  | none =>
    rw [hf] at h; cases h
    exact ⟨fun x hx => Option.isSome_iff_ne_none.mpr (by simpa using List.find?_eq_none.mp hf x hx), rfl⟩

theorem resolve_ok_mem {m : List (String × SysId)} {deps : List String} {ids : List SysId}
    (h : resolve m deps = .ok ids) {d : SysId} (hd : d ∈ ids) : ∃ p, p ∈ m ∧ p.2 = d := by
  rw [(resolve_ok h).2] at hd
  obtain ⟨x, _, hx⟩ := List.mem_filterMap.mp hd
  exact ⟨(x, d), lookup_eq_some hx, rfl⟩

variable (b : DispatcherBuilder) (tag : SysTag) (name : String) (dep : List String) (d : Decl)

theorem add_cases :
    (∃ x, resolve b.map dep = .error x ∧
      b.add tag name dep d = ({ b with currentId := b.currentId + 1 }, some (.unknownDep x))) ∨
    (∃ ids, resolve b.map dep = .ok ids ∧ name ≠ "" ∧ (lookup b.map name).isSome ∧
      b.add tag name dep d = ({ b with currentId := b.currentId + 1 }, some (.duplicateName name))) ∨
    (∃ ids, resolve b.map dep = .ok ids ∧ (name = "" ∨ lookup b.map name = none) ∧
      b.add tag name dep d =
        ({ currentId := b.currentId + 1, map := if name = "" then b.map else (name, b.currentId) :: b.map,
           stagesBuilder := b.stagesBuilder.insert ids b.currentId tag d, threadLocal := b.threadLocal }, none)) := by
  unfold add; dsimp only
  cases resolve b.map dep with
  | error x => exact .inl ⟨x, rfl, rfl⟩
  | ok ids =>
    dsimp only
    refine .inr ?_
    by_cases hn : name = ""
    · rw [if_neg (not_not_intro hn)]
      exact .inr ⟨ids, rfl, .inl hn, by rw [if_pos hn]⟩
    · rw [if_pos hn]
      cases hl : lookup b.map name with
      | some i => exact .inl ⟨ids, rfl, hn, rfl, if_pos rfl⟩
      | none =>
        rw [if_neg hn]
        exact .inr ⟨ids, rfl, .inr rfl, if_neg Bool.false_ne_true⟩

theorem add_frame :
    (b.add tag name dep d).1.currentId = b.currentId + 1 ∧ (b.add tag name dep d).1.threadLocal = b.threadLocal := by
  rcases add_cases b tag name dep d with ⟨_, _, he⟩ | ⟨_, _, _, _, he⟩ | ⟨_, _, _, he⟩ <;> rw [he] <;> exact ⟨rfl, rfl⟩

theorem addCallbackPanics_eq :
    b.addCallbackPanics name dep =
      ({ (b.add tag name dep d).1 with stagesBuilder := b.stagesBuilder }, (b.add tag name dep d).2) := by
  unfold addCallbackPanics add; dsimp only
  cases resolve b.map dep with
  | error x => rfl
  | ok ids =>
    simp only []
    split
    · split <;> rfl
    · rfl

end DispatcherBuilder
end Shred
