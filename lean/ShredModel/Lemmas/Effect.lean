import ShredModel.Model.Effect
import ShredModel.Lemmas.Table
/-!
# The harness systems satisfy the hypothesis of C05

`runSys` depends only on the system's own state and on the resources it declared, and changes
only what it declared to write — hence two systems with non-conflicting declarations and
different tags commute.
-/
namespace Shred

theorem updF_same {α β} [DecidableEq α] (f : α → β) (k : α) (v : β) : updF f k v k = v := by simp [updF]
theorem updF_other {α β} [DecidableEq α] {f : α → β} {k x : α} {v : β} (h : x ≠ k) : updF f k v x = f x := by
  simp [updF, h]

theorem writeAll_other {ws : List ResId} {tag sum c : UInt64} {w : ResId → UInt64} {x : ResId} (hx : x ∉ ws) :
    writeAll ws tag sum c w x = w x := by
  unfold writeAll
  induction ws generalizing w with
  | nil => rfl
  | cons r ws ih =>
    simp only [List.foldl]
    rw [ih fun h => hx (by simp [h])]
    exact updF_other fun h => hx (by simp [h])

theorem writeAll_local {ws : List ResId} {tag sum c : UInt64} {w w' : ResId → UInt64} {x : ResId}
    (h : w x = w' x) : writeAll ws tag sum c w x = writeAll ws tag sum c w' x := by
  unfold writeAll
  induction ws generalizing w w' with
  | nil => exact h
  | cons r ws ih =>
    simp only [List.foldl]
    apply ih
    by_cases hx : x = r
    · subst hx; simp [updF, h]
    · simp [updF, hx, h]

theorem sumReads_congr {rs : List ResId} {w w' : ResId → UInt64} (h : ∀ r, r ∈ rs → w r = w' r) :
    sumReads rs w = sumReads rs w' := by
  unfold sumReads
  suffices ∀ (s : UInt64), rs.foldl (fun s r => s + w r) s = rs.foldl (fun s r => s + w' r) s from this 0
  induction rs with
  | nil => intro s; rfl
  | cons r rs ih =>
    intro s
    simp only [List.foldl]
    rw [h r (by simp)]
    exact ih (fun r' hr' => h r' (by simp [hr'])) _

theorem mem_uniq {α} [DecidableEq α] (l acc : List α) (x : α) : x ∈ uniq l acc ↔ x ∈ l ∨ x ∈ acc := by
  induction l generalizing acc with
  | nil => simp [uniq]
  | cons a l ih =>
    simp only [uniq]
    split
    · rename_i ha
      rw [ih, List.mem_cons]
      -- `a` is dropped, being in `acc` already
      constructor
      · exact Or.imp_left Or.inr
      · rintro ((rfl | h) | h)
        · exact Or.inr ha
        · exact Or.inl h
        · exact Or.inr h
    · rw [ih, List.mem_cons, List.mem_cons, or_left_comm, or_assoc]

theorem mem_fetchedWrites {d : Decl} {x : ResId} : x ∈ fetchedWrites d ↔ x ∈ d.writes := by
  simp [fetchedWrites, mem_uniq]

theorem mem_fetchedReads {d : Decl} {x : ResId} : x ∈ fetchedReads d → x ∈ d.reads := by
  simp only [fetchedReads, mem_uniq, List.mem_filter, List.not_mem_nil, or_false]
  exact fun h => h.1

/-- systems whose declarations do not conflict fetch nothing that the other one writes -/
theorem fetched_of_not_conflictsD {d1 d2 : Decl} (hc : ¬ conflictsD d1 d2) (r : ResId) :
    (r ∈ fetchedWrites d1 → r ∉ fetchedWrites d2 ∧ r ∉ fetchedReads d2) ∧
    (r ∈ fetchedReads d1 → r ∉ fetchedWrites d2) :=
  ⟨fun h1 =>
    ⟨fun h2 => hc (.inl ⟨r, mem_fetchedWrites.mp h1, .inl (mem_fetchedWrites.mp h2)⟩),
     fun h2 => hc (.inl ⟨r, mem_fetchedWrites.mp h1, .inr (mem_fetchedReads h2)⟩)⟩,
   fun h1 h2 => hc (.inr ⟨r, mem_fetchedReads h1, mem_fetchedWrites.mp h2⟩)⟩

/-- `runSys` looks at its own local state and at the resources it reads; on a state that agrees
with `st` there, it computes what it computes on `st` -/
theorem runSys_of_agree (t : Nat) (d : Decl) {st st' : EffState} (hl : st'.locals t = st.locals t)
    (hr : ∀ r, r ∈ fetchedReads d → st'.world r = st.world r) :
    runSys t d st' =
      { world := writeAll (fetchedWrites d) t.toUInt64 (sumReads (fetchedReads d) st.world) (st.locals t).1 st'.world,
        locals := updF st'.locals t
          ((st.locals t).1 + 1, mix (st.locals t).2 t.toUInt64 (sumReads (fetchedReads d) st.world) (st.locals t).1) } := by
  rw [runSys, hl, sumReads_congr hr]

theorem runSys_comm (t1 t2 : Nat) (d1 d2 : Decl) (ht : t1 ≠ t2) (hc : ¬ conflictsD d1 d2) (st : EffState) :
    runSys t1 d1 (runSys t2 d2 st) = runSys t2 d2 (runSys t1 d1 st) := by
  have hww : ∀ x, x ∈ fetchedWrites d1 → x ∉ fetchedWrites d2 := fun x h1 =>
    ((fetched_of_not_conflictsD hc x).1 h1).1
  have hwr : ∀ x, x ∈ fetchedReads d2 → x ∉ fetchedWrites d1 := fun x h2 h1 =>
    ((fetched_of_not_conflictsD hc x).1 h1).2 h2
  have hrw : ∀ x, x ∈ fetchedReads d1 → x ∉ fetchedWrites d2 := fun x =>
    (fetched_of_not_conflictsD hc x).2
  -- neither system disturbs what the other looks at
  rw [runSys_of_agree t1 d1 (st := st) (st' := runSys t2 d2 st) (updF_other ht)
      fun r hr => writeAll_other (hrw r hr),
    runSys_of_agree t2 d2 (st := st) (st' := runSys t1 d1 st) (updF_other ht.symm)
      fun r hr => writeAll_other (hwr r hr),
    EffState.mk.injEq]
  refine ⟨funext fun x => ?_, funext fun t => ?_⟩
  · by_cases h1 : x ∈ fetchedWrites d1
    · rw [writeAll_other (hww x h1)]
      exact writeAll_local (writeAll_other (hww x h1))
    · rw [writeAll_other h1]
      exact (writeAll_local (writeAll_other h1)).symm
  · simp only [runSys, updF]
    by_cases h1 : t = t1
    · subst h1; simp [ht]
    · by_cases h2 : t = t2
      · subst h2; simp [h1]
      · simp [h1, h2]

end Shred
