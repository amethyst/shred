import ShredModel.Model.PTask
import ShredModel.Lemmas.Exec
/-!
# The panic-aware acceptor: what every accepted log satisfies (C14)

`PR.Runs r l r'` describes how a log `l` that leads from residual `r` to `r'` is put together from
runs of the parts of `r`; the C14 facts are inductions over that shape and know nothing of the
acceptor. `PR.steps r l` runs the derivative the driver executes (`PR.deriv`) over a log; the
decomposition lemmas `steps_seq` / `steps_par` / `steps_scopeOpen` show that each of its runs has
that shape (`runs_of_steps`).
-/
namespace Shred
variable {ι : Type}

namespace PR

theorem status_seq_ok {a b : PR ι} : status (.seq a b) = .ok ↔ status a = .ok ∧ status b = .ok := by
  simp only [status]; cases status a <;> simp

theorem status_par_ok {a b : PR ι} : status (.par a b) = .ok ↔ status a = .ok ∧ status b = .ok := by
  simp only [status]; cases status a <;> cases status b <;> simp

theorem status_seq_done {a b : PR ι} :
    status (.seq a b) ≠ .running ↔ status a = .panicked ∨ status a = .ok ∧ status b ≠ .running := by
  simp only [status]; cases status a <;> simp

theorem status_par_done {a b : PR ι} :
    status (.par a b) ≠ .running ↔ status a ≠ .running ∧ status b ≠ .running := by
  simp only [status]; cases status a <;> cases status b <;> simp

theorem not_hasPanic_of_ok {r : PR ι} (h : status r = .ok) : hasPanic r = false := by
  induction r with
  | seq a b iha ihb =>
    have := status_seq_ok.mp h
    simp only [hasPanic, iha this.1, ihb this.2, Bool.or_self]
  | par a b iha ihb =>
    have := status_par_ok.mp h
    simp only [hasPanic, iha this.1, ihb this.2, Bool.or_self]
  | dead | scope | scopeOpen => cases h
  | _ => rfl

theorem finalOk_of_done {r : PR ι} (ab : Bool) (h : status r ≠ .running) : finalOk r ab = true := by
  induction r generalizing ab with
  | seq a b iha ihb =>
    rcases status_seq_done.mp h with ha | ⟨ha, hb⟩
    · simp only [finalOk, ha]
    · simp only [finalOk, ha, ihb ab hb]
  | par a b iha ihb =>
    have := status_par_done.mp h
    simp only [finalOk, iha _ this.1, ihb _ this.2, Bool.and_self]
  | leaf | closing | scope | scopeOpen => exact absurd rfl h
  | _ => rfl

theorem finalOk_of_quiescent {r : PR ι} (h : quiescent r = true) : finalOk r true = true := by
  induction r with
  | seq a b iha ihb =>
    simp only [quiescent, Bool.and_eq_true] at h
    simp only [finalOk]
    cases status a
    · exact iha h.1
    · exact ihb h.2
    · rfl
  | par a b iha ihb =>
    simp only [quiescent, Bool.and_eq_true] at h
    simp only [finalOk, Bool.true_or, iha h.1, ihb h.2, Bool.and_self]
  | closing | scopeOpen => cases h
  | _ => rfl

/-- the instances that still occur in a residual -/
def insts : PR ι → List ι
  | .nil => []
  | .fin => []
  | .dead => []
  | .leaf s => [s]
  | .closing s => [s]
  | .seq a b => insts a ++ insts b
  | .par a b => insts a ++ insts b
  | .scope s body => s :: insts body
  | .scopeOpen s body => s :: insts body

def fresh : PR ι → List ι
  | .leaf s => [s]
  | .seq a b => fresh a ++ fresh b
  | .par a b => fresh a ++ fresh b
  | .scope s body => s :: fresh body
  | .scopeOpen _ body => fresh body
  | _ => []

theorem fresh_sublist (r : PR ι) : (fresh r).Sublist (insts r) := by
  induction r with
  | nil | fin | dead | leaf => exact .refl _
  | closing => exact List.nil_sublist _
  | seq a b iha ihb | par a b iha ihb => exact iha.append ihb
  | scope _ _ ih => exact ih.cons_cons _
  | scopeOpen _ _ ih => exact ih.cons _

/-- Every run of the acceptor is of this shape (`runs_of_steps`). Not conversely: here either side
of a `par` may take an event, the acceptor offers it to the left side first
(`Runs (par (leaf 1) (leaf 1)) [F 1] (par (leaf 1) (closing 1))`). -/
inductive Runs : PR ι → List (PEv ι) → PR ι → Prop
  | refl (r) : Runs r [] r
  | closeD (s) : Runs (.closing s) [.D s] .fin
  | closeP (s) : Runs (.closing s) [.P s] .dead
  | leaf {s l r'} : Runs (.closing s) l r' → Runs (.leaf s) (.F s :: l) r'
  | seq {a b la lb a' b'} : Runs a la a' → Runs b lb b' → (lb = [] ∨ status a' = .ok) →
      Runs (.seq a b) (la ++ lb) (.seq a' b')
  | par {a b la lb l a' b'} : Runs a la a' → Runs b lb b' → Shuffle la lb l →
      Runs (.par a b) l (.par a' b')
  | scope {s body l r'} : Runs (.scopeOpen s body) l r' → Runs (.scope s body) (.F s :: l) r'
  | body {s body l b'} : Runs body l b' → Runs (.scopeOpen s body) l (.scopeOpen s b')
  | endD {s body l b'} : Runs body l b' → status b' = .ok → Runs (.scopeOpen s body) (l ++ [.D s]) .fin
  | endP {s body l b'} : Runs body l b' → (status b' ≠ .running ∨ quiescent b' = true) →
      Runs (.scopeOpen s body) (l ++ [.P s]) .dead

namespace Runs
variable {r r' : PR ι} {l : List (PEv ι)}

theorem ev_sys (h : Runs r l r') : ∀ e, e ∈ l → e.sys ∈ insts r := by
  induction h with
  | refl => intro e he; cases he
  | closeD s | closeP s => intro e he; cases List.mem_singleton.mp he; exact List.mem_singleton.mpr rfl
  | leaf _ ih | scope _ ih =>
    intro e he
    rcases List.mem_cons.mp he with rfl | he
    · exact List.mem_cons_self
    · exact ih e he
  | seq _ _ _ iha ihb =>
    intro e he
    exact List.mem_append.mpr ((List.mem_append.mp he).imp (iha e) (ihb e))
  | par _ _ hs iha ihb =>
    intro e he
    exact List.mem_append.mpr ((hs.mem_iff.mp he).imp (iha e) (ihb e))
  | body _ ih => intro e he; exact List.mem_cons_of_mem _ (ih e he)
  | endD _ _ ih | endP _ _ ih =>
    intro e he
    rcases List.mem_append.mp he with he | he
    · exact List.mem_cons_of_mem _ (ih e he)
    · cases List.mem_singleton.mp he; exact List.mem_cons_self

theorem insts_sub (h : Runs r l r') : ∀ x, x ∈ insts r' → x ∈ insts r := by
  induction h with
  | refl => exact fun _ hx => hx
  | closeD | closeP | endD | endP => intro x hx; cases hx
  | leaf _ ih | scope _ ih => exact ih
  | seq _ _ _ iha ihb | par _ _ _ iha ihb =>
    intro x hx
    exact List.mem_append.mpr ((List.mem_append.mp hx).imp (iha x) (ihb x))
  | body _ ih =>
    intro x hx
    exact List.mem_cons.mpr ((List.mem_cons.mp hx).imp_right (ih x))

theorem hasPanic (h : Runs r l r') : hasPanic r' = true ↔ hasPanic r = true ∨ ∃ s, PEv.P s ∈ l := by
  induction h with
  | refl => simp
  | closeD s | closeP s | endP => simp [PR.hasPanic]
  | leaf _ ih | scope _ ih => simpa only [PR.hasPanic, List.mem_cons, reduceCtorEq, false_or] using ih
  | body _ ih => exact ih
  | seq _ _ _ iha ihb =>
    -- here and for `par`: the hypotheses give (a had a panic ∨ `P` in la) ∨ (b had one ∨ `P` in lb),
    -- the goal groups (a had one ∨ b had one) ∨ (`P` in la ∨ `P` in lb)
    simp only [PR.hasPanic, Bool.or_eq_true, iha, ihb, List.mem_append, exists_or]
    exact or_or_or_comm
  | par _ _ hs iha ihb =>
    simp only [PR.hasPanic, Bool.or_eq_true, iha, ihb, hs.mem_iff, exists_or]
    exact or_or_or_comm
  | endD _ hst ih =>
    rw [not_hasPanic_of_ok hst] at ih
    simpa only [PR.hasPanic, List.mem_append, List.mem_singleton, reduceCtorEq, or_false] using ih

theorem closed (h : Runs r l r') :
    ∀ ab, finalOk r' ab = true → ∀ x, PEv.F x ∈ l → PEv.D x ∈ l ∨ PEv.P x ∈ l := by
  -- for every flag `ab`, not only the `false` that `run` passes: `par` raises it for its parts,
  -- and `endP` judges the body with `true`
  induction h with
  | refl => intro _ _ x hx; cases hx
  | closeD s | closeP s => intro _ _ x hx; simp at hx
  | leaf h _ =>
    -- a leaf's run that may stop is `F s, D s` or `F s, P s`
    intro ab hf x hx
    cases h with
    | refl => cases hf
    | closeD | closeP => simp at hx; subst hx; simp
  | @seq a b la lb a' b' _ _ hc iha ihb =>
    intro ab hf x hx
    simp only [finalOk] at hf
    simp only [List.mem_append] at hx ⊢
    rcases hx with hx | hx
    · have hfa : finalOk a' ab = true := by
        cases hs : status a' with
        | running => simpa only [hs] using hf
        | ok | panicked => exact finalOk_of_done ab (by simp [hs])
      exact (iha ab hfa x hx).imp .inl .inl
    · rcases hc with rfl | hc
      · cases hx
      · simp only [hc] at hf
        exact (ihb ab hf x hx).imp .inr .inr
  | par _ _ hs iha ihb =>
    intro ab hf x hx
    simp only [finalOk, Bool.and_eq_true] at hf
    simp only [hs.mem_iff] at hx ⊢
    rcases hx with hx | hx
    · exact (iha _ hf.1 x hx).imp .inl .inl
    · exact (ihb _ hf.2 x hx).imp .inr .inr
  | scope h ih =>
    intro ab hf x hx
    rcases List.mem_cons.mp hx with hx | hx
    · -- the batch's own window: a run of an open batch that may stop ends in `D s` or `P s`
      cases hx
      cases h with
      | refl | body => cases hf
      | endD | endP => simp
    · exact (ih ab hf x hx).imp (List.mem_cons_of_mem _) (List.mem_cons_of_mem _)
  | body => intro _ hf; cases hf
  | endD _ hst ih =>
    intro ab _ x hx
    simp only [List.mem_append, List.mem_singleton, reduceCtorEq, or_false] at hx
    exact (ih ab (finalOk_of_done ab (by simp [hst])) x hx).imp (List.mem_append_left _) (List.mem_append_left _)
  | endP _ hst ih =>
    intro _ _ x hx
    simp only [List.mem_append, List.mem_singleton, reduceCtorEq, or_false] at hx
    have hfb := hst.elim (finalOk_of_done true) finalOk_of_quiescent
    exact (ih true hfb x hx).imp (List.mem_append_left _) (List.mem_append_left _)

/-- the body's share of a run of a batch: all events but the batch's own -/
theorem scope_body {s : ι} {body : PR ι} (h : Runs (.scope s body) l r') :
    ∃ lb b', Runs body lb b' ∧ ∀ e, e ∈ l → e.sys ≠ s → e ∈ lb := by
  have drop : ∀ {lb : List (PEv ι)} {e' e : PEv ι}, e'.sys = s → e.sys ≠ s → e ∈ e' :: lb → e ∈ lb :=
    fun he' hne hm => (List.mem_cons.mp hm).resolve_left fun h => hne (h ▸ he')
  have drop' : ∀ {lb : List (PEv ι)} {e' e : PEv ι}, e'.sys = s → e.sys ≠ s → e ∈ lb ++ [e'] → e ∈ lb :=
    fun he' hne hm => (List.mem_append.mp hm).resolve_right fun h => hne (List.mem_singleton.mp h ▸ he')
  cases h with
  | refl => exact ⟨[], body, .refl _, fun e he => nomatch he⟩
  | scope h =>
    cases h with
    | refl => exact ⟨[], body, .refl _, fun e he hne => drop rfl hne he⟩
    | body hb => exact ⟨_, _, hb, fun e he hne => drop rfl hne he⟩
    | endD hb _ | endP hb _ => exact ⟨_, _, hb, fun e he hne => drop' rfl hne (drop rfl hne he)⟩

end Runs

end PR

theorem insts_toPR (t : Task ι) : (t.toPR).insts = t.sys := by
  induction t <;> simp [Task.toPR, PR.insts, Task.sys, *]

theorem hasPanic_toPR (t : Task ι) : (t.toPR).hasPanic = false := by
  induction t <;> simp [Task.toPR, PR.hasPanic, *]

open PR

theorem mem_run_left {a b : Task ι} {la lb : List (PEv ι)} {b' : PR ι} (hb : Runs b.toPR lb b')
    (hdis : ∀ z, z ∈ a.sys → ∀ w, w ∈ b.sys → z ≠ w) {e : PEv ι} (hs : e.sys ∈ a.sys)
    (he : e ∈ la ∨ e ∈ lb) : e ∈ la :=
  he.resolve_right fun h => hdis _ hs _ (insts_toPR b ▸ hb.ev_sys e h) rfl

theorem mem_run_right {a b : Task ι} {la lb : List (PEv ι)} {a' : PR ι} (ha : Runs a.toPR la a')
    (hdis : ∀ z, z ∈ a.sys → ∀ w, w ∈ b.sys → z ≠ w) {e : PEv ι} (hs : e.sys ∈ b.sys)
    (he : e ∈ la ∨ e ∈ lb) : e ∈ lb :=
  he.resolve_left fun h => hdis _ (insts_toPR a ▸ ha.ev_sys e h) _ hs rfl

/-- In a run of `seq a b` or `par a b` whose parts share no instance, each part has a run of its own
that holds every event of the whole about one of its instances (what `Runs.scope_body` is for a batch). -/
theorem PR.Runs.parts {a b : Task ι} {l : List (PEv ι)} {r' : PR ι}
    (h : Runs (.seq a.toPR b.toPR) l r' ∨ Runs (.par a.toPR b.toPR) l r')
    (hdis : ∀ z, z ∈ a.sys → ∀ w, w ∈ b.sys → z ≠ w) :
    (∃ la a', Runs a.toPR la a' ∧ ∀ e, e ∈ l → e.sys ∈ a.sys → e ∈ la) ∧
    (∃ lb b', Runs b.toPR lb b' ∧ ∀ e, e ∈ l → e.sys ∈ b.sys → e ∈ lb) := by
  suffices ∃ la lb a' b', Runs a.toPR la a' ∧ Runs b.toPR lb b' ∧ ∀ e, e ∈ l → e ∈ la ∨ e ∈ lb by
    obtain ⟨la, lb, a', b', ha, hb, hl⟩ := this
    exact ⟨⟨la, a', ha, fun e he hs => mem_run_left hb hdis hs (hl e he)⟩,
      ⟨lb, b', hb, fun e he hs => mem_run_right ha hdis hs (hl e he)⟩⟩
  rcases h with h | h
  · cases h with
    | refl => exact ⟨[], [], _, _, .refl _, .refl _, nofun⟩
    | seq ha hb _ => exact ⟨_, _, _, _, ha, hb, fun _ => List.mem_append.mp⟩
  · cases h with
    | refl => exact ⟨[], [], _, _, .refl _, .refl _, nofun⟩
    | par ha hb hs => exact ⟨_, _, _, _, ha, hb, fun _ => hs.mem_iff.mp⟩

theorem dependents_dont_start {t : Task ι} {x y : ι} (hb : Before t x y) :
    ∀ {l : List (PEv ι)} {r' : PR ι}, Runs t.toPR l r' → t.sys.Nodup → PEv.P x ∈ l → PEv.F y ∉ l := by
  -- but for `here`, both events lie in the run of the part (or body) that holds `x` and `y`
  intro l r' h hnd hP hF
  induction hb generalizing l r' with
  | @here a b x y hx hy =>
    -- `x` was unwound inside `a`, so `a` did not end `ok` and `b` was never touched
    obtain ⟨_, _, hdis⟩ := List.nodup_append.mp hnd
    cases h with
    | refl => cases hP
    | seq ha hb' hc =>
      have hPa := mem_run_left hb' hdis (e := .P x) hx (List.mem_append.mp hP)
      have hFb := mem_run_right ha hdis (e := .F y) hy (List.mem_append.mp hF)
      rcases hc with rfl | hc
      · cases hFb
      · have := ha.hasPanic.mpr (.inr ⟨x, hPa⟩)
        rw [not_hasPanic_of_ok hc] at this; cases this
  | @seqL a b x y hab ih =>
    obtain ⟨hna, _, hdis⟩ := List.nodup_append.mp hnd
    obtain ⟨hx, hy⟩ := before_mem hab
    obtain ⟨la, a', ha, hl⟩ := (Runs.parts (.inl h) hdis).1
    exact ih ha hna (hl _ hP hx) (hl _ hF hy)
  | @seqR a b x y hab ih =>
    obtain ⟨_, hnb, hdis⟩ := List.nodup_append.mp hnd
    obtain ⟨hx, hy⟩ := before_mem hab
    obtain ⟨lb, b', hb', hl⟩ := (Runs.parts (.inl h) hdis).2
    exact ih hb' hnb (hl _ hP hx) (hl _ hF hy)
  | @parL a b x y hab ih =>
    obtain ⟨hna, _, hdis⟩ := List.nodup_append.mp hnd
    obtain ⟨hx, hy⟩ := before_mem hab
    obtain ⟨la, a', ha, hl⟩ := (Runs.parts (.inr h) hdis).1
    exact ih ha hna (hl _ hP hx) (hl _ hF hy)
  | @parR a b x y hab ih =>
    obtain ⟨_, hnb, hdis⟩ := List.nodup_append.mp hnd
    obtain ⟨hx, hy⟩ := before_mem hab
    obtain ⟨lb, b', hb', hl⟩ := (Runs.parts (.inr h) hdis).2
    exact ih hb' hnb (hl _ hP hx) (hl _ hF hy)
  | @scope s body x y hab ih =>
    obtain ⟨hs, hnb⟩ := List.nodup_cons.mp hnd
    obtain ⟨hx, hy⟩ := before_mem hab
    obtain ⟨lb, b', hb', hl⟩ := Runs.scope_body h
    exact ih hb' hnb (hl _ hP fun e => hs (e ▸ hx)) (hl _ hF fun e => hs (e ▸ hy))

namespace PR
variable [DecidableEq ι]

theorem count_F_cons (s x : ι) (l : List (PEv ι)) :
    (PEv.F s :: l).count (.F x) = [s].count x + l.count (.F x) := by
  by_cases h : s = x <;> simp [h, Nat.add_comm]

theorem count_F_end {e : PEv ι} {x : ι} (h : e ≠ .F x) (l : List (PEv ι)) :
    (l ++ [e]).count (.F x) = l.count (.F x) := by
  simp [List.count_append, h]

/-- **C14 (no system runs more than once)**: an instance starts at most as often as it is still fresh -/
theorem Runs.count_F {r r' : PR ι} {l : List (PEv ι)} (h : Runs r l r') (x : ι) :
    l.count (.F x) + (fresh r').count x ≤ (fresh r).count x := by
  induction h with
  | refl => simp
  | closeD s | closeP s => simp [fresh]
  | leaf _ ih => rw [count_F_cons, Nat.add_assoc]; exact Nat.add_le_add_left ih _
  | seq _ _ _ iha ihb =>
    simp only [fresh, List.count_append]; rw [Nat.add_add_add_comm]; exact Nat.add_le_add iha ihb
  | par _ _ hs iha ihb =>
    simp only [fresh, List.count_append, shuffle_count hs]; rw [Nat.add_add_add_comm]
    exact Nat.add_le_add iha ihb
  | @scope s body _ _ _ ih =>
    rw [count_F_cons, Nat.add_assoc]
    show _ ≤ ([s] ++ fresh body).count x
    rw [List.count_append]; exact Nat.add_le_add_left ih _
  | body _ ih => exact ih
  | endD _ _ ih | endP _ _ ih =>
    rw [count_F_end (by simp)]; exact Nat.le_trans (Nat.le_add_right _ _) ih

theorem Runs.count_F_le_one {r r' : PR ι} {l : List (PEv ι)} (h : Runs r l r') (hnd : (insts r).Nodup) (x : ι) :
    l.count (PEv.F x) ≤ 1 :=
  calc l.count (.F x) ≤ (fresh r).count x := Nat.le_trans (Nat.le_add_right _ _) (h.count_F x)
    _ ≤ (insts r).count x := (fresh_sublist r).count_le x
    _ ≤ 1 := List.nodup_iff_count.mp hnd x

def steps : PR ι → List (PEv ι) → Option (PR ι)
  | r, [] => some r
  | r, e :: l => match r.deriv e with
    | some r' => steps r' l
    | none => none

theorem steps_cons {r r' : PR ι} {e : PEv ι} {l : List (PEv ι)} :
    steps r (e :: l) = some r' ↔ ∃ r1, deriv r e = some r1 ∧ steps r1 l = some r' := by
  simp only [steps]; cases deriv r e <;> simp

theorem steps_append (r : PR ι) (l1 l2 : List (PEv ι)) :
    steps r (l1 ++ l2) = (steps r l1).bind fun r' => steps r' l2 := by
  induction l1 generalizing r with
  | nil => rfl
  | cons e l1 ih =>
    simp only [List.cons_append, steps]
    cases r.deriv e with
    | none => rfl
    | some r' => exact ih r'

theorem deriv_none_of_done (r : PR ι) (e : PEv ι) (h : status r ≠ .running) : deriv r e = none := by
  induction r with
  | seq a b iha ihb =>
    rcases status_seq_done.mp h with ha | ⟨ha, hb⟩
    · simp only [deriv, ha]
    · simp only [deriv, ha, ihb hb, Option.map_none]
  | par a b iha ihb =>
    have := status_par_done.mp h
    simp only [deriv, iha this.1, ihb this.2, Option.map_none]
  | leaf | closing | scope | scopeOpen => exact absurd rfl h
  | _ => rfl

theorem running_of_deriv {r r' : PR ι} {e : PEv ι} (h : deriv r e = some r') : status r = .running :=
  Decidable.byContradiction fun hs => by rw [deriv_none_of_done r e hs] at h; cases h

theorem steps_of_done {r : PR ι} (h : status r ≠ .running) {l : List (PEv ι)} {r' : PR ι}
    (hs : steps r l = some r') : l = [] ∧ r' = r := by
  cases l with
  | nil => cases hs; exact ⟨rfl, rfl⟩
  | cons e l => simp [steps, deriv_none_of_done r e h] at hs

/-- for a residual whose only step is `F s`: a leaf, an unopened batch -/
theorem steps_first {r x : PR ι} {s : ι} (hr : ∀ e, deriv r e = if e = .F s then some x else none)
    {l : List (PEv ι)} {r' : PR ι} (h : steps r l = some r') :
    (l = [] ∧ r' = r) ∨ ∃ l', l = .F s :: l' ∧ steps x l' = some r' := by
  cases l with
  | nil => cases h; exact .inl ⟨rfl, rfl⟩
  | cons e l =>
    obtain ⟨r1, hd, hs⟩ := steps_cons.mp h
    rw [hr] at hd
    split at hd
    · next he => cases hd; exact .inr ⟨l, he ▸ rfl, hs⟩
    · cases hd

theorem steps_seq {a b : PR ι} {l : List (PEv ι)} {r' : PR ι} (h : steps (.seq a b) l = some r') :
    ∃ la lb a' b', l = la ++ lb ∧ steps a la = some a' ∧ steps b lb = some b' ∧ r' = .seq a' b' ∧
      (lb = [] ∨ status a' = .ok) := by
  induction l generalizing a b with
  | nil => cases h; exact ⟨[], [], a, b, rfl, rfl, rfl, rfl, .inl rfl⟩
  | cons e l ih =>
    obtain ⟨r1, hd, hs⟩ := steps_cons.mp h
    simp only [deriv] at hd
    cases hst : status a with
    | panicked => simp [hst] at hd
    | ok =>
      simp only [hst, Option.map_eq_some_iff] at hd
      obtain ⟨b1, hb, rfl⟩ := hd
      obtain ⟨la, lb, a', b', rfl, ha, hb', hr, _⟩ := ih hs
      obtain ⟨rfl, rfl⟩ := steps_of_done (by simp [hst]) ha
      exact ⟨[], e :: lb, a', b', rfl, ha, steps_cons.mpr ⟨b1, hb, hb'⟩, hr, .inr hst⟩
    | running =>
      simp only [hst, Option.map_eq_some_iff] at hd
      obtain ⟨a1, ha, rfl⟩ := hd
      obtain ⟨la, lb, a', b', rfl, ha', hb', hr, hc⟩ := ih hs
      exact ⟨e :: la, lb, a', b', rfl, steps_cons.mpr ⟨a1, ha, ha'⟩, hb', hr, hc⟩

theorem steps_par {a b : PR ι} {l : List (PEv ι)} {r' : PR ι} (h : steps (.par a b) l = some r') :
    ∃ la lb a' b', Shuffle la lb l ∧ steps a la = some a' ∧ steps b lb = some b' ∧ r' = .par a' b' := by
  induction l generalizing a b with
  | nil => cases h; exact ⟨[], [], a, b, .nil, rfl, rfl, rfl⟩
  | cons e l ih =>
    obtain ⟨r1, hd, hs⟩ := steps_cons.mp h
    simp only [deriv] at hd
    cases ha : deriv a e with
    | some a1 =>
      simp only [ha, Option.some.injEq] at hd; subst hd
      obtain ⟨la, lb, a', b', hsh, ha', hb', hr⟩ := ih hs
      exact ⟨e :: la, lb, a', b', .left hsh, steps_cons.mpr ⟨a1, ha, ha'⟩, hb', hr⟩
    | none =>
      simp only [ha, Option.map_eq_some_iff] at hd
      obtain ⟨b1, hb, rfl⟩ := hd
      obtain ⟨la, lb, a', b', hsh, ha', hb', hr⟩ := ih hs
      exact ⟨la, e :: lb, a', b', .right hsh, ha', steps_cons.mpr ⟨b1, hb, hb'⟩, hr⟩

theorem deriv_scopeOpen_end {s : ι} {body r1 : PR ι} {e : PEv ι} (hb : deriv body e = none)
    (h : deriv (.scopeOpen s body) e = some r1) :
    (e = .D s ∧ status body = .ok ∧ r1 = .fin) ∨
    (e = .P s ∧ (status body ≠ .running ∨ quiescent body = true) ∧ r1 = .dead) := by
  simp only [deriv, hb] at h
  cases hst : status body with
  | running =>
    -- only `P s`, and only while no inner system is open
    simp only [hst] at h
    split at h
    · next hc =>
      cases h
      simp only [Bool.and_eq_true, decide_eq_true_eq] at hc
      exact .inr ⟨hc.1, .inr hc.2, rfl⟩
    · cases h
  | ok =>
    simp only [hst] at h
    split at h
    · next he => cases h; exact .inl ⟨he, rfl, rfl⟩
    · split at h
      · next he => cases h; exact .inr ⟨he, .inl (by simp), rfl⟩
      · cases h
  | panicked =>
    simp only [hst] at h
    split at h
    · next he => cases h; exact .inr ⟨he, .inl (by simp), rfl⟩
    · cases h

theorem steps_scopeOpen {s : ι} {body : PR ι} {l : List (PEv ι)} {r' : PR ι}
    (h : steps (.scopeOpen s body) l = some r') :
    ∃ lb b', steps body lb = some b' ∧
      ((l = lb ∧ r' = .scopeOpen s b') ∨
       (l = lb ++ [.D s] ∧ status b' = .ok ∧ r' = .fin) ∨
       (l = lb ++ [.P s] ∧ (status b' ≠ .running ∨ quiescent b' = true) ∧ r' = .dead)) := by
  induction l generalizing body with
  | nil => cases h; exact ⟨[], body, rfl, .inl ⟨rfl, rfl⟩⟩
  | cons e l ih =>
    obtain ⟨r1, hd, hs⟩ := steps_cons.mp h
    cases hb : deriv body e with
    | some b1 =>
      simp only [deriv, hb, Option.some.injEq] at hd; subst hd
      obtain ⟨lb, b', hb', hc⟩ := ih hs
      refine ⟨e :: lb, b', steps_cons.mpr ⟨b1, hb, hb'⟩, ?_⟩
      rcases hc with ⟨rfl, hr⟩ | ⟨rfl, hc⟩ | ⟨rfl, hc⟩
      · exact .inl ⟨rfl, hr⟩
      · exact .inr (.inl ⟨rfl, hc⟩)
      · exact .inr (.inr ⟨rfl, hc⟩)
    | none =>
      -- the batch itself ends, in `fin` or in `dead`: nothing follows
      rcases deriv_scopeOpen_end hb hd with ⟨rfl, hst, rfl⟩ | ⟨rfl, hst, rfl⟩
      · obtain ⟨rfl, rfl⟩ := steps_of_done (by simp [status]) hs
        exact ⟨[], body, rfl, .inr (.inl ⟨rfl, hst, rfl⟩)⟩
      · obtain ⟨rfl, rfl⟩ := steps_of_done (by simp [status]) hs
        exact ⟨[], body, rfl, .inr (.inr ⟨rfl, hst, rfl⟩)⟩

theorem Runs.of_closing {s : ι} {l : List (PEv ι)} {r' : PR ι} (h : steps (.closing s) l = some r') :
    Runs (.closing s) l r' := by
  cases l with
  | nil => cases h; exact .refl _
  | cons e l =>
    obtain ⟨r1, hd, hs⟩ := steps_cons.mp h
    simp only [deriv] at hd
    split at hd
    · next he => cases hd; obtain ⟨rfl, rfl⟩ := steps_of_done (by simp [status]) hs; exact he ▸ .closeD s
    · split at hd
      · next he => cases hd; obtain ⟨rfl, rfl⟩ := steps_of_done (by simp [status]) hs; exact he ▸ .closeP s
      · cases hd

theorem Runs.of_scopeOpen {s : ι} {body : PR ι} {l : List (PEv ι)} {r' : PR ι}
    (h : steps (.scopeOpen s body) l = some r') (ih : ∀ {lb b'}, steps body lb = some b' → Runs body lb b') :
    Runs (.scopeOpen s body) l r' := by
  obtain ⟨lb, b', hb, hc⟩ := steps_scopeOpen h
  rcases hc with ⟨rfl, rfl⟩ | ⟨rfl, hst, rfl⟩ | ⟨rfl, hst, rfl⟩
  · exact .body (ih hb)
  · exact .endD (ih hb) hst
  · exact .endP (ih hb) hst

theorem runs_of_steps {r : PR ι} : ∀ {l : List (PEv ι)} {r' : PR ι}, steps r l = some r' → Runs r l r' := by
  induction r with
  | nil | fin | dead =>
    intro l r' h
    obtain ⟨rfl, rfl⟩ := steps_of_done (by simp [status]) h; exact .refl _
  | closing s => exact .of_closing
  | leaf s =>
    intro l r' h
    rcases steps_first (fun _ => rfl) h with ⟨rfl, rfl⟩ | ⟨l', rfl, h'⟩
    · exact .refl _
    · exact .leaf (.of_closing h')
  | seq a b iha ihb =>
    intro l r' h
    obtain ⟨la, lb, a', b', rfl, ha, hb, rfl, hc⟩ := steps_seq h
    exact .seq (iha ha) (ihb hb) hc
  | par a b iha ihb =>
    intro l r' h
    obtain ⟨la, lb, a', b', hsh, ha, hb, rfl⟩ := steps_par h
    exact .par (iha ha) (ihb hb) hsh
  | scopeOpen s body ih => exact fun h => .of_scopeOpen h ih
  | scope s body ih =>
    intro l r' h
    rcases steps_first (fun _ => rfl) h with ⟨rfl, rfl⟩ | ⟨l', rfl, h'⟩
    · exact .refl _
    · exact .scope (.of_scopeOpen h' ih)

theorem finalOk_mono : ∀ (r : PR ι) (ab : Bool), finalOk r ab = true → finalOk r true = true := by
  intro r
  induction r with
  | seq a b iha ihb =>
    intro ab h
    simp only [finalOk] at h ⊢
    revert h
    cases status a
    · exact iha ab
    · exact ihb ab
    · exact id
  | par a b iha ihb =>
    intro ab h
    simp only [finalOk, Bool.and_eq_true, Bool.true_or] at h ⊢
    exact ⟨iha _ h.1, ihb _ h.2⟩
  | closing | scopeOpen => intro _ h; cases h
  | _ => intros; rfl

theorem run_eq_some_iff {r : PR ι} {l : List (PEv ι)} {o : Bool} :
    run r l = some o ↔ ∃ r', steps r l = some r' ∧ finalOk r' false = true ∧ o = hasPanic r' := by
  induction l generalizing r with
  | nil =>
    simp only [run, steps, Option.some.injEq, exists_eq_left', Option.ite_none_right_eq_some]
    exact and_congr_right fun _ => eq_comm
  | cons e l ih =>
    simp only [run, steps]
    cases r.deriv e with
    | none => simp
    | some r1 => exact ih

theorem run_runs {r : PR ι} {l : List (PEv ι)} {o : Bool} (h : run r l = some o) :
    ∃ r', Runs r l r' ∧ finalOk r' false = true ∧ o = hasPanic r' :=
  let ⟨r', hs, hf, ho⟩ := run_eq_some_iff.mp h
  ⟨r', runs_of_steps hs, hf, ho⟩

end PR

end Shred
