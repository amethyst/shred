import ShredModel.Model.Meta
import ShredModel.Lemmas.ListAux
/-!
# The `MetaTable` model (C17): the table, `get`, one call of `next`

`register` keeps the representation invariant `MetaInv`; the stored types are `firstOccs` of the
registration history. Whole iterations are in `Lemmas/MetaIter.lean`.
-/
namespace Shred
namespace Meta
open MetaTable

theorem lookup_concat_eq_some (m : List (Nat × Nat)) (k v x i : Nat) :
    lookup (m ++ [(k, v)]) x = some i ↔
      lookup m x = some i ∨ lookup m x = none ∧ k = x ∧ v = i := by
  induction m with
  | nil => simp [lookup]
  | cons p m ih =>
    simp only [List.cons_append, lookup]
    split <;> simp [ih]

/-- The representation invariant of the three parallel containers. -/
structure MetaInv (t : MetaTable) : Prop where
  /-- meta.rs, in `register`: "Important: ensure no entry exists twice!" -/
  nodup : t.tys.Nodup
  /-- position `i` of `vtable_fns` holds the attach function instantiated with `tys[i]`
  (a function is named by the type it was instantiated with); in particular equal lengths -/
  vt : t.vtableFns = t.tys
  /-- `register` takes `self.indices.len()` for the position of a new entry in `tys` -/
  len : t.indices.length = t.tys.length
  /-- `indices` maps exactly the stored types, each to its position -/
  idx : ∀ ty i, lookup t.indices ty = some i ↔ t.tys[i]? = some ty

theorem MetaInv.empty : MetaInv {} :=
  ⟨List.nodup_nil, rfl, rfl, by intro ty i; simp [lookup]⟩

theorem MetaInv.mem_iff {t : MetaTable} (h : MetaInv t) (ty : Nat) :
    ty ∈ t.tys ↔ ∃ i, lookup t.indices ty = some i := by
  constructor
  · intro hm
    obtain ⟨i, hi, he⟩ := List.getElem_of_mem hm
    exact ⟨i, (h.idx ty i).mpr (by simp [List.getElem?_eq_getElem hi, he])⟩
  · rintro ⟨i, hi⟩
    exact List.mem_of_getElem? ((h.idx ty i).mp hi)

theorem MetaInv.not_mem_iff {t : MetaTable} (h : MetaInv t) (ty : Nat) :
    ty ∉ t.tys ↔ lookup t.indices ty = none := by
  rw [h.mem_iff]
  cases lookup t.indices ty <;> simp

/-- `self.vtable_fns[ind] = vtable_fn` in `register` is in bounds -/
theorem register_index_in_bounds {t : MetaTable} (h : MetaInv t) {ty ind : Nat}
    (hl : lookup t.indices ty = some ind) : ind < t.vtableFns.length := by
  have := (h.idx ty ind).mp hl
  rw [h.vt]
  exact (List.getElem?_eq_some_iff.mp this).1

/-- the function stored again is the one that was there: it is determined by the type -/
theorem register_of_mem {t : MetaTable} (h : MetaInv t) {ty : Nat} (hm : ty ∈ t.tys) :
    t.register ty = t := by
  obtain ⟨i, hi⟩ := (h.mem_iff ty).mp hm
  have hget := (h.idx ty i).mp hi
  obtain ⟨hlt, he⟩ := List.getElem?_eq_some_iff.mp hget
  unfold register
  simp only [hi]
  have : t.vtableFns.set i ty = t.vtableFns := by
    rw [h.vt]
    conv => lhs; rw [← he]
    exact List.set_getElem_self hlt
  rw [this]

theorem register_of_not_mem {t : MetaTable} (h : MetaInv t) {ty : Nat} (hm : ty ∉ t.tys) :
    t.register ty =
      { vtableFns := t.vtableFns ++ [ty], indices := t.indices ++ [(ty, t.indices.length)],
        tys := t.tys ++ [ty] } := by
  have := (h.not_mem_iff ty).mp hm
  unfold register
  simp only [this]

theorem register_tys {t : MetaTable} (h : MetaInv t) (ty : Nat) :
    (t.register ty).tys = if ty ∈ t.tys then t.tys else t.tys ++ [ty] := by
  by_cases hm : ty ∈ t.tys
  · rw [register_of_mem h hm, if_pos hm]
  · rw [register_of_not_mem h hm, if_neg hm]

/-- `register` keeps the invariant, whether the type is new or not -/
theorem MetaInv.register {t : MetaTable} (h : MetaInv t) (ty : Nat) : MetaInv (t.register ty) := by
  by_cases hm : ty ∈ t.tys
  · rw [register_of_mem h hm]; exact h
  · rw [register_of_not_mem h hm]
    have hnone := (h.not_mem_iff ty).mp hm
    refine {
      nodup := List.nodup_append.mpr ⟨h.nodup, by simp, fun a ha b hb => ?_⟩
      vt := congrArg (· ++ [ty]) h.vt
      len := by simp [h.len]
      idx := fun x i => ?_ }
    · rw [List.mem_singleton.mp hb]
      exact fun e => hm (e ▸ ha)
    · -- a pair `(x, i)` of the longer lists is an old pair or the new one
      rw [lookup_concat_eq_some, getElem?_concat_eq_some, h.idx, h.len]
      refine or_congr_right ⟨?_, ?_⟩
      · rintro ⟨_, rfl, rfl⟩; exact ⟨rfl, rfl⟩
      · rintro ⟨rfl, rfl⟩; exact ⟨hnone, rfl, rfl⟩

/-- **Invariance.** Every table reachable from an invariant one by any sequence of `register` calls
(repeats included) satisfies the invariant. -/
theorem MetaInv.registerAll {t : MetaTable} (h : MetaInv t) (regs : List Nat) :
    MetaInv (t.registerAll regs) := by
  induction regs generalizing t with
  | nil => exact h
  | cons r rs ih => exact ih (h.register r)

/-- the specification of "first-registration order, once each" -/
def firstOccs : List Nat → List Nat
  | [] => []
  | x :: xs => x :: (firstOccs xs).filter (· ≠ x)

theorem mem_firstOccs (l : List Nat) (x : Nat) : x ∈ firstOccs l ↔ x ∈ l := by
  induction l with
  | nil => simp [firstOccs]
  | cons y ys ih =>
    simp only [firstOccs, List.mem_cons, List.mem_filter, ih, decide_eq_true_eq]
    by_cases h : x = y <;> simp [h]

theorem nodup_firstOccs (l : List Nat) : (firstOccs l).Nodup := by
  induction l with
  | nil => simp [firstOccs]
  | cons y ys ih =>
    simp only [firstOccs, List.nodup_cons, List.mem_filter, decide_eq_true_eq, ne_eq,
      not_true_eq_false, and_false, not_false_eq_true, true_and]
    exact ih.filter _

theorem registerAll_tys {t : MetaTable} (h : MetaInv t) (regs : List Nat) :
    (t.registerAll regs).tys = t.tys ++ (firstOccs regs).filter (· ∉ t.tys) := by
  induction regs generalizing t with
  | nil => simp [MetaTable.registerAll, firstOccs]
  | cons r rs ih =>
    have := ih (h.register r)
    simp only [MetaTable.registerAll, List.foldl_cons] at this ⊢
    rw [this, register_tys h, firstOccs, List.filter_cons, List.filter_filter]
    by_cases hm : r ∈ t.tys
    · rw [if_pos hm, if_neg (by simpa using hm)]
      congr 1
      apply List.filter_congr
      intro x _
      by_cases hx : x = r <;> simp [hx, hm]
    · rw [if_neg hm, if_pos (by simpa using hm), List.append_assoc, List.singleton_append]
      congr 2
      apply List.filter_congr
      intro x _
      by_cases hx : x = r <;> simp [hx]

theorem registerAll_empty_tys (regs : List Nat) :
    (({} : MetaTable).registerAll regs).tys = firstOccs regs := by
  rw [registerAll_tys MetaInv.empty]
  simp

theorem getMut_eq_get (cast : CastFn) (t : MetaTable) (r : ResRef) :
    t.getMut cast r = t.get cast r := rfl

theorem get_eq {t : MetaTable} (h : MetaInv t) (cast : CastFn) (r : ResRef) :
    t.get cast r =
      if r.ty ∈ t.tys then
        if (cast r.ty r.addr).addr = r.addr then .some (cast r.ty r.addr) else .panic .badCast
      else .none := by
  unfold MetaTable.get
  by_cases hm : r.ty ∈ t.tys
  · obtain ⟨i, hi⟩ := (h.mem_iff r.ty).mp hm
    simp only [hi, h.vt, (h.idx r.ty i).mp hi, attachVtable, if_pos hm]
    by_cases hc : (cast r.ty r.addr).addr = r.addr <;> simp [hc]
  · simp only [(h.not_mem_iff r.ty).mp hm, if_neg hm]

theorem get_eq_some_iff {t : MetaTable} (h : MetaInv t) (cast : CastFn) (r : ResRef) (p : TraitPtr) :
    t.get cast r = .some p ↔
      r.ty ∈ t.tys ∧ (cast r.ty r.addr).addr = r.addr ∧ p = cast r.ty r.addr := by
  rw [get_eq h]
  by_cases hm : r.ty ∈ t.tys <;> by_cases hc : (cast r.ty r.addr).addr = r.addr <;>
    simp [hm, hc, eq_comm]

theorem get_eq_none_iff {t : MetaTable} (h : MetaInv t) (cast : CastFn) (r : ResRef) :
    t.get cast r = .none ↔ r.ty ∉ t.tys := by
  rw [get_eq h]
  by_cases hm : r.ty ∈ t.tys <;> by_cases hc : (cast r.ty r.addr).addr = r.addr <;> simp [hm, hc]

theorem MWorld.set_cell (w : MWorld) (ty : Nat) (c : Option MCell) (k : Nat) :
    (w.set ty c).cell k = if k = ty then c else w.cell k := rfl

theorem MWorld.cell_eq_none_iff (w : MWorld) (x : Nat) : w.cell x = none ↔ w.present x = false := by
  simp [MWorld.present]

/-- `world.insert` needs `&mut World`: a world built by inserts has no guard alive -/
theorem MWorld.insert_free {w : MWorld} (h : ∀ ty c, w.cell ty = some c → c.borrow = .free)
    (k addr : Nat) : ∀ ty c, (w.insert k addr).cell ty = some c → c.borrow = .free := by
  intro ty c hc
  rw [MWorld.insert, MWorld.set_cell] at hc
  split at hc
  · cases hc; rfl
  · exact h ty c hc

theorem MWorld.release_cell (w : MWorld) (ty k : Nat) :
    (w.release ty).cell k =
      if k = ty then (w.cell ty).map fun c => { c with borrow := MWorld.releaseBorrow c.borrow }
      else w.cell k := by
  unfold MWorld.release
  cases h : w.cell ty with
  | none => by_cases hk : k = ty <;> simp [hk, h]
  | some c => rfl

/-- `hwf`: `shared 0` is not a state of an `AtomicRefCell` -/
theorem releaseBorrow_tryBorrow {b b' : Borrow} {excl : Bool}
    (h : Shred.tryBorrow b excl = some b') (hwf : b ≠ .shared 0) : MWorld.releaseBorrow b' = b := by
  cases b with
  | free => cases excl <;> (cases h; rfl)
  | excl => cases excl <;> cases h
  | shared n =>
    cases excl
    · cases h
      cases n with
      | zero => exact absurd rfl hwf
      | succ m => rfl
    · cases h

/-- the registered types from position `i` on whose resource is present: what the iterator at
cursor `i` has still to yield -/
def remaining (t : MetaTable) (w : MWorld) (i : Nat) : List Nat := (t.tys.drop i).filter w.present

theorem remaining_registerAll (regs : List Nat) (w : MWorld) (i : Nat) :
    remaining (({} : MetaTable).registerAll regs) w i =
      ((firstOccs regs).drop i).filter w.present := by
  rw [remaining, registerAll_empty_tys]

theorem remaining_nil {t : MetaTable} {w : MWorld} {i : Nat} (h : remaining t w i = []) :
    ∀ x ∈ t.tys.drop i, w.cell x = none := by
  intro x hx
  rw [MWorld.cell_eq_none_iff]
  cases hp : w.present x with
  | false => rfl
  | true =>
    -- a present `x` would be among the remaining ones
    have : x ∈ remaining t w i := List.mem_filter.mpr ⟨hx, hp⟩
    rw [h] at this
    cases this

theorem remaining_cons {t : MetaTable} {w : MWorld} {i ty : Nat} {L' : List Nat}
    (h : remaining t w i = ty :: L') :
    ∃ pre rest c, t.tys.drop i = pre ++ ty :: rest ∧ (∀ x ∈ pre, w.cell x = none) ∧
      w.cell ty = some c ∧ remaining t w (i + pre.length + 1) = L' := by
  obtain ⟨pre, rest, hd, hpre, hty, hrest⟩ := filter_eq_cons h
  obtain ⟨c, hc⟩ := Option.isSome_iff_exists.mp hty
  exact ⟨pre, rest, c, hd, fun x hx => (w.cell_eq_none_iff x).mpr (hpre x hx), hc,
    by rw [remaining, (drop_eq_append_cons hd).2, hrest]⟩

theorem remaining_past (t : MetaTable) (w : MWorld) (i : Nat) :
    remaining t w (i + (t.tys.drop i).length) = [] := by
  rw [remaining, List.drop_eq_nil_of_le (by simp only [List.length_drop]; omega)]
  rfl

theorem remaining_length_le (t : MetaTable) (w : MWorld) (i : Nat) :
    (remaining t w i).length ≤ t.tys.length :=
  Nat.le_trans (List.length_filter_le ..) (by simp)

theorem next_eq (cast : CastFn) (t : MetaTable) (w : MWorld) (i : Nat) (excl : Bool) :
    t.next cast w ⟨i, excl⟩ =
      ((nextFrom cast t.vtableFns excl (t.tys.drop i) i w).world,
       ⟨(nextFrom cast t.vtableFns excl (t.tys.drop i) i w).index, excl⟩,
       (nextFrom cast t.vtableFns excl (t.tys.drop i) i w).out) := rfl

theorem nextFrom_skip (cast : CastFn) (vt : List Nat) (excl : Bool) (pre rest : List Nat)
    (i : Nat) (w : MWorld) (hpre : ∀ ty ∈ pre, w.cell ty = none) :
    nextFrom cast vt excl (pre ++ rest) i w = nextFrom cast vt excl rest (i + pre.length) w := by
  induction pre generalizing i with
  | nil => simp
  | cons p ps ih =>
    have hp : w.cell p = none := hpre p (by simp)
    simp only [List.cons_append, nextFrom, hp]
    rw [ih (i + 1) (fun ty hty => hpre ty (by simp [hty]))]
    simp only [List.length_cons]
    congr 1; omega

theorem next_miss (cast : CastFn) {t : MetaTable} {w : MWorld} {i : Nat} (excl : Bool)
    (h : ∀ x ∈ t.tys.drop i, w.cell x = none) :
    t.next cast w ⟨i, excl⟩ = (w, ⟨i + (t.tys.drop i).length, excl⟩, .none) := by
  have := nextFrom_skip cast t.vtableFns excl (t.tys.drop i) [] i w h
  rw [List.append_nil] at this
  rw [next_eq, this]
  rfl

theorem next_hit (cast : CastFn) {t : MetaTable} {w : MWorld} {i : Nat} (excl : Bool)
    {pre rest : List Nat} {ty : Nat} {c : MCell} (hvt : t.vtableFns = t.tys)
    (hd : t.tys.drop i = pre ++ ty :: rest) (hpre : ∀ x ∈ pre, w.cell x = none)
    (hc : w.cell ty = some c) :
    t.next cast w ⟨i, excl⟩ =
      match Shred.tryBorrow c.borrow excl with
      | none => (w, ⟨i + pre.length + 1, excl⟩, .panic .borrowed)
      | some b' =>
        if (cast ty c.addr).addr = c.addr then
          (w.set ty (some { c with borrow := b' }), ⟨i + pre.length + 1, excl⟩, .item (cast ty c.addr))
        else (w, ⟨i + pre.length + 1, excl⟩, .panic .badCast) := by
  have hidx := (drop_eq_append_cons hd).1
  rw [next_eq, hvt, hd, nextFrom_skip cast t.tys excl pre (ty :: rest) i w hpre]
  simp only [nextFrom, hc, hidx, attachVtable]
  cases Shred.tryBorrow c.borrow excl with
  | none => rfl
  | some b' =>
    by_cases hcast : (cast ty c.addr).addr = c.addr <;> simp [hcast]

theorem nextFrom_progress (cast : CastFn) (vt : List Nat) (excl : Bool) (rest : List Nat) (i : Nat)
    (w : MWorld) (h : (nextFrom cast vt excl rest i w).out ≠ .none) :
    i < (nextFrom cast vt excl rest i w).index ∧
      (nextFrom cast vt excl rest i w).index ≤ i + rest.length := by
  induction rest generalizing i with
  | nil => exact absurd rfl h
  | cons ty rest ih =>
    revert h
    rw [nextFrom]
    split
    · intro h
      have := ih (i + 1) h
      simp only [List.length_cons]; omega
    · -- however the call ends at a present cell, the index is `i + 1`
      repeat' split
      all_goals exact fun _ => ⟨Nat.lt_succ_self i, Nat.succ_le_succ (Nat.le_add_right ..)⟩

end Meta
end Shred
