import ShredModel.Model.Access
import ShredModel.Model.Async
import ShredModel.Model.Builder
import ShredModel.Model.CellWord
import ShredModel.Model.Effect
import ShredModel.Model.Lifecycle
import ShredModel.Model.Meta
import ShredModel.Model.Nested
import ShredModel.Model.PTask
import ShredModel.Model.ParSeq
import ShredModel.Model.Plan
import ShredModel.Model.Pool
import ShredModel.Model.Stage
import ShredModel.Model.SysData
import ShredModel.Model.Task
import ShredModel.Model.World
import ShredModel.Lemmas.Accept
import ShredModel.Lemmas.Add
import ShredModel.Lemmas.AddGlue
import ShredModel.Lemmas.AsyncAccept
import ShredModel.Lemmas.AsyncInv
import ShredModel.Lemmas.AsyncStep
import ShredModel.Lemmas.Batch
import ShredModel.Lemmas.CellWord
import ShredModel.Lemmas.Dispatch
import ShredModel.Lemmas.Effect
import ShredModel.Lemmas.Examples
import ShredModel.Lemmas.Exec
import ShredModel.Lemmas.Expand
import ShredModel.Lemmas.Invariance
import ShredModel.Lemmas.Lifecycle
import ShredModel.Lemmas.ListAux
import ShredModel.Lemmas.Meta
import ShredModel.Lemmas.MetaIter
import ShredModel.Lemmas.Nested
import ShredModel.Lemmas.NestedTop
import ShredModel.Lemmas.PAccept
import ShredModel.Lemmas.PExec
import ShredModel.Lemmas.ParSeq
import ShredModel.Lemmas.ParSeqBuild
import ShredModel.Lemmas.PlanTask
import ShredModel.Lemmas.Pool
import ShredModel.Lemmas.Print
import ShredModel.Lemmas.Reach
import ShredModel.Lemmas.Relabel
import ShredModel.Lemmas.Scenario
import ShredModel.Lemmas.Share
import ShredModel.Lemmas.Sim
import ShredModel.Lemmas.SysData
import ShredModel.Lemmas.Table
import ShredModel.Lemmas.TaskN
import ShredModel.Lemmas.Threads
import ShredModel.Lemmas.World
import ShredModel.Lemmas.WorldInv
import ShredModel.Lemmas.WorldMap
import ShredModel.Lemmas.WorldSpec
import ShredModel.Lemmas.Zip
import ShredModel.Lemmas.ZipMore
import ShredModel.Props.C01
import ShredModel.Props.C02
import ShredModel.Props.C03
import ShredModel.Props.C04
import ShredModel.Props.C05
import ShredModel.Props.C06
import ShredModel.Props.C07
import ShredModel.Props.C08
import ShredModel.Props.C09
import ShredModel.Props.C10
import ShredModel.Props.C11
import ShredModel.Props.C12
import ShredModel.Props.C13
import ShredModel.Props.C14
import ShredModel.Props.C15
import ShredModel.Props.C16
import ShredModel.Props.C17
import ShredModel.Props.C18
import ShredModel.Props.C19
import ShredModel.Props.C20
import ShredModel.Drv.Async
import ShredModel.Drv.CellWord
import ShredModel.Drv.Meta
import ShredModel.Drv.ParSeq
import ShredModel.Drv.Plan
import ShredModel.Drv.Pool
import ShredModel.Drv.SysData
import ShredModel.Drv.Util
import ShredModel.Drv.World
